import PintModel.Model.Comments
import PintModel.Model.Reader
import PintModel.Spec.Exclude
import PintModel.Props.C01
import PintModel.Props.C02
import PintModel.Props.C03
import PintModel.Props.C04
import PintModel.Props.C05
import PintModel.Props.C06
import PintModel.Props.C07
import PintModel.Props.C08
import PintModel.Props.C09
import PintModel.Props.C10
import PintModel.Props.C11
import PintModel.Props.C12
import PintModel.Props.C13
import PintModel.Props.C14
import PintModel.Props.C15
import PintModel.Props.C16
import PintModel.Props.C17
import PintModel.Props.C18
import PintModel.Props.C19
import PintModel.Props.C20
