import Lean.Data.Json
import PintModel.Model.LabelFlow
import PintModel.Model.StaticFlow
namespace Driver.C04
open Lean Pint.LabelFlow

def strs (j : Json) : List String :=
  match j with | .arr a => a.toList.filterMap fun x => x.getStr?.toOption | _ => []

def mkOf (s : String) : MK :=
  match s with | "eq" => .eq | "eqEmpty" => .eqEmpty | "neq" => .neq | "re" => .re | _ => .nre

def matchers (j : Json) : List Matcher :=
  match j with
  | .arr a => a.toList.map fun m => { label := (m.getObjValD "l").getStr?.toOption.getD "", kind := mkOf ((m.getObjValD "t").getStr?.toOption.getD "") }
  | _ => []

partial def exprOf (j : Json) : Expr :=
  let k := (j.getObjValD "k").getStr?.toOption.getD ""
  let e := fun (f : String) => exprOf (j.getObjValD f)
  let ls := fun (f : String) => strs (j.getObjValD f)
  let b := fun (f : String) => (j.getObjValD f).getBool?.toOption.getD false
  let st := fun (f : String) => (j.getObjValD f).getStr?.toOption.getD ""
  match k with
  | "sel" => .sel (matchers (j.getObjValD "ms"))
  | "aggBy" => .aggBy (ls "g") (e "e")
  | "aggWithout" => .aggWithout (ls "g") (e "e")
  | "topk" => .topk (e "e")
  | "countValuesBy" => .countValuesBy (ls "g") (st "v") (e "e")
  | "func" => .func (e "e")
  | "labelReplace" => .labelReplace (st "dst") (e "e")
  | "absent" => .absent (matchers (j.getObjValD "ms"))
  | "vec" => .vec
  | "binOn" => .binOn (ls "m") (e "l") (e "r")
  | "binIgn" => .binIgn (ls "m") (e "l") (e "r")
  | "groupLeft" => .groupLeft (b "on") (ls "m") (ls "incl") (e "l") (e "r")
  | "groupRight" => .groupRight (b "on") (ls "m") (ls "incl") (e "l") (e "r")
  | "setAnd" => .setAnd (b "on") (ls "m") (e "l") (e "r")
  | "setOr" => .setOr (b "on") (ls "m") (e "l") (e "r")
  | _ => .withScalar (e "e")

def insertS (x : String) : List String → List String
  | [] => [x]
  | y :: ys => if x < y then x :: y :: ys else if x == y then y :: ys else y :: insertS x ys
def norm (l : List String) : List String := l.foldr insertS []
def showL (l : List String) : String := "[" ++ String.intercalate "," (norm l) ++ "]"

/-- op: lfanalyse <expr json> → one line per source: i=[..] e=[..] g=[..] f=bool, joined by ; -/
def lfanalyse (args : List String) : String :=
  match args with
  | [js] => match Json.parse js with
    | .error _ => "bad-op"
    | .ok j => String.intercalate ";" ((analyse (exprOf j)).map fun s =>
        s!"i={showL s.incl} e={showL s.excl} g={showL s.guar} f={s.fixed}")
  | _ => "bad-op"

/-- op: lfpossible <U csv> <expr json> <ls;ls;...> → ok | missing [..] -/
def lfpossible (args : List String) : String :=
  match args with
  | [u, js, sets] => match Json.parse js with
    | .error _ => "bad-op"
    | .ok j =>
      let U := (u.splitOn ",").filter (· != "")
      let poss := (possible U (exprOf j)).map norm
      let asked := (sets.splitOn ";").map fun s => norm ((s.splitOn ",").filter (· != ""))
      match asked.find? (fun ls => !poss.contains ls) with
      | none => "ok"
      | some ls => s!"missing {showL ls}"
  | _ => "bad-op"


def srcOf (j : Json) : Src :=
  { incl := strs (j.getObjValD "i"), excl := strs (j.getObjValD "e"), guar := strs (j.getObjValD "g"),
    fixed := (j.getObjValD "f").getBool?.toOption.getD false, selGuar := [] }

/-- op: canjoin {on, m, l:{i,e,g,f}, r:{...}} → true|false -/
def canjoin (args : List String) : String :=
  match args with
  | [js] => match Json.parse js with
    | .error _ => "bad-op"
    | .ok j => toString (Pint.LabelFlow.canJoin ((j.getObjValD "on").getBool?.toOption.getD false) (strs (j.getObjValD "m"))
        (srcOf (j.getObjValD "l")) (srcOf (j.getObjValD "r")))
  | _ => "bad-op"


/-- op: lffull <U csv> <expr json> <ls;ls;...> → ok | outside | missing [..]: on the C12 fragment, what the engine
returns on a database where every series carries every label of U must be among `full U e` -/
def lffull (args : List String) : String :=
  match args with
  | [u, js, sets] => match Json.parse js with
    | .error _ => "bad-op"
    | .ok j =>
      let e := exprOf j
      if !frag12 e then "outside" else
      let U := (u.splitOn ",").filter (· != "")
      let poss := (full U e).map norm
      let asked := (sets.splitOn ";").map fun s => norm ((s.splitOn ",").filter (· != ""))
      match asked.find? (fun ls => !poss.contains ls) with
      | none => "ok"
      | some ls => s!"missing {showL ls}"
  | _ => "bad-op"

/-- op: lffrag <expr json> → true|false -/
def lffrag (args : List String) : String :=
  match args with
  | [js] => match Json.parse js with
    | .error _ => "bad-op"
    | .ok j => toString (frag12 (exprOf j))
  | _ => "bad-op"

/-- op: lfnever <expr json> → c1,c2,...: per source of `analyse`, the number of "never matched" verdicts `WalkSources`
reaches from it -/
def lfnever (args : List String) : String :=
  match args with
  | [js] => match Json.parse js with
    | .error _ => "bad-op"
    | .ok j => String.intercalate "," ((neverMatched (exprOf j)).map toString)
  | _ => "bad-op"

/-- op: lfjoined <U csv> <on> <m csv> <l json> <r json> → empty | nonempty -/
def lfjoined (args : List String) : String :=
  match args with
  | [u, on, m, jl, jr] => match Json.parse jl, Json.parse jr with
    | .ok l, .ok r =>
      let U := (u.splitOn ",").filter (· != "")
      let ml := (m.splitOn ",").filter (· != "")
      if (joined U (on == "true") ml (exprOf l) (exprOf r)).isEmpty then "empty" else "nonempty"
    | _, _ => "bad-op"
  | _ => "bad-op"

open Pint.StaticFlow in
partial def seOf (j : Json) : SE :=
  let k := (j.getObjValD "k").getStr?.toOption.getD ""
  let opOf : String → Op := fun s => match s with
    | "+" => .add | "-" => .sub | "*" => .mul | "==" => .eq | "!=" => .ne | "<=" => .le | "<" => .lt | ">=" => .ge | _ => .gt
  match k with
  | "num" => .num ((j.getObjValD "v").getInt?.toOption.getD 0)
  | "sel" => .sel
  | "vector" => .vector (seOf (j.getObjValD "e"))
  | "neg" => .neg (seOf (j.getObjValD "e"))
  | "fn" => .fn ((j.getObjValD "keeps").getBool?.toOption.getD false) (seOf (j.getObjValD "e"))
  | "agg" => .agg ((j.getObjValD "keeps").getBool?.toOption.getD false) (seOf (j.getObjValD "e"))
  | "unlessOn" => .unlessOn (seOf (j.getObjValD "l")) (seOf (j.getObjValD "r"))
  | _ => .bin (opOf ((j.getObjValD "op").getStr?.toOption.getD "")) ((j.getObjValD "bool").getBool?.toOption.getD false)
      (seOf (j.getObjValD "l")) (seOf (j.getObjValD "r"))

/-- op: lfstatic <SE json> → always known num|- dead cond -/
def lfstatic (args : List String) : String :=
  match args with
  | [js] => match Json.parse js with
    | .error _ => "bad-op"
    | .ok j =>
      let st := Pint.StaticFlow.static (seOf j)
      s!"{st.always} {st.known} " ++ (if st.known then toString st.num else "-") ++ s!" {st.dead} {st.cond}"
  | _ => "bad-op"

/-- op: lfeval <SE json> → s:k | v:k | v:none (closed expressions) -/
def lfeval (args : List String) : String :=
  match args with
  | [js] => match Json.parse js with
    | .error _ => "bad-op"
    | .ok j => match Pint.StaticFlow.eval (seOf j) with
      | .s k => s!"s:{k}"
      | .v (some k) => s!"v:{k}"
      | .v none => "v:none"
  | _ => "bad-op"

/-- op: lforrhs <SE json of the left side> → true|false: is the right side of `l or ... r` declared unused -/
def lforrhs (args : List String) : String :=
  match args with
  | [js] => match Json.parse js with
    | .error _ => "bad-op"
    | .ok j => toString (Pint.StaticFlow.orRhsDead (seOf j))
  | _ => "bad-op"

end Driver.C04
