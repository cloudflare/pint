/-
How the comment scanner reads the value of a control comment: once the keyword is read (`needsValue`), the rest of
the line is taken rune by rune up to the newline and trimmed.  `parseComment_value` reduces the scan of `p ++ v` to
the scan of the prefix `p` alone, for any value `v` that begins with a text without white space (`Word`) and holds no
newline; `parseComment_text` and `parseComment_snooze` are the two forms of value, for words.  The second covers less
than the scanner takes: one blank between timestamp and match (a tab or a run of white space is read the same way).
-/
import PintModel.Model.Comments
namespace Pint.Comments

theorem runFrom_append (st : St) (i : Nat) (a b : List Char) :
    runFrom st i (a ++ b) = runFrom (runFrom st i a) (i + byteLen a) b := by
  induction a generalizing st i with
  | nil => rfl
  | cons r rs ih => simp only [List.cons_append, runFrom, ih, byteLen, List.map_cons, List.sum_cons, Nat.add_assoc]

theorem stepRune_readsValue (b : List Char) (t : CType) (o i : Nat) (c : Char) :
    stepRune ⟨.readsValue, b, t, o⟩ i c = ⟨.readsValue, if c = '\n' then b else b ++ [c], t, o⟩ := by
  by_cases hc : c = '\n' <;> simp [stepRune, dispatch, hc]

theorem runFrom_readsValue (b : List Char) (t : CType) (o i : Nat) (v : List Char) (hv : ∀ c ∈ v, c ≠ '\n') :
    runFrom ⟨.readsValue, b, t, o⟩ i v = ⟨.readsValue, b ++ v, t, o⟩ := by
  induction v generalizing b i with
  | nil => simp [runFrom]
  | cons c cs ih =>
    simp [runFrom, stepRune_readsValue, hv c List.mem_cons_self, ih _ _ fun d hd => hv d (List.mem_cons_of_mem _ hd)]

/-- a value the scanner and `trimSpace` hand back as it stands: a check name, a timestamp -/
def Word (w : List Char) : Prop := w ≠ [] ∧ ∀ c ∈ w, isSpace c = false

-- for `C07.checkNames_words`, which evaluates `Word` over the table of check names
instance (w : List Char) : Decidable (Word w) := inferInstanceAs (Decidable (_ ∧ _))

/-- for a literal `d`: the default `by decide` evaluates `isSpace d` -/
theorem ne_of_not_space {c d : Char} (h : isSpace c = false) (hd : isSpace d = true := by decide) : c ≠ d := by
  rintro rfl; rw [hd] at h; cases h

/-- `parseComment` scans `line ++ ['\n']`: the newline ends the value and is no part of it -/
theorem runFrom_needsValue (t : CType) (o i : Nat) (c : Char) (cs : List Char)
    (hc : isSpace c = false) (hv : ∀ d ∈ cs, d ≠ '\n') :
    runFrom ⟨.needsValue, [], t, o⟩ i (c :: cs ++ ['\n']) = ⟨.readsValue, c :: cs, t, o⟩ := by
  have h1 : stepRune ⟨.needsValue, [], t, o⟩ i c = ⟨.readsValue, [c], t, o⟩ := by
    simp [stepRune, dispatch, hc, ne_of_not_space (d := '\n') hc]
  rw [List.cons_append, runFrom, h1, runFrom_append, runFrom_readsValue _ _ _ _ _ hv]
  simp [runFrom, stepRune_readsValue]

theorem trimLeft_eq_dropWhile : trimLeft = List.dropWhile isSpace := by
  funext l
  fun_induction trimLeft l <;> simp [*]

theorem Word.dropWhile_append {w : List Char} (hw : Word w) (x : List Char) :
    (w ++ x).dropWhile isSpace = w ++ x := by
  obtain ⟨c, cs, rfl⟩ := List.exists_cons_of_ne_nil hw.1
  simp [hw.2 c]

theorem trimSpace_pad {a b l w w' : List Char} (ha : ∀ c ∈ a, isSpace c = true) (hb : ∀ c ∈ b, isSpace c = true)
    (hw : Word w) (hw' : Word w') (h : w <+: l) (h' : w' <:+ l) : trimSpace (a ++ l ++ b) = l := by
  obtain ⟨x, h⟩ := h
  obtain ⟨y, h'⟩ := h'
  have hr : Word w'.reverse := ⟨by simpa using hw'.1, by simpa using hw'.2⟩
  rw [trimSpace, trimLeft_eq_dropWhile, List.append_assoc, List.dropWhile_append_of_pos ha, ← h, List.append_assoc,
    hw.dropWhile_append, ← List.append_assoc, h, ← h', List.reverse_append, List.reverse_append,
    List.dropWhile_append_of_pos (by simpa using hb), hr.dropWhile_append, ← List.reverse_append, List.reverse_reverse]

theorem splitFirstSpace_append (a b : List Char) (ha : ∀ c ∈ a, isSpace c = false) :
    splitFirstSpace (a ++ ' ' :: b) = some (a, trimSpace (' ' :: b)) := by
  induction a with
  | nil => simp [splitFirstSpace]
  | cons c a ih =>
    have hc := ha c List.mem_cons_self
    simp [splitFirstSpace, ne_of_not_space (d := ' ') hc, ne_of_not_space (d := '\t') hc,
      ih fun d hd => ha d (List.mem_cons_of_mem _ hd)]

-- the validator of timestamps; the text before the value, with the type and the offset of the comment it opens
variable (tsOk : List Char → Bool) {p : List Char} {t : CType} {o : Nat}

theorem parseComment_value {w x : List Char}
    (hp : runFrom {} 0 p = ⟨.needsValue, [], t, o⟩) (ht : t ≠ .unknown) (hw : Word w) (hx : ∀ c ∈ x, c ≠ '\n') :
    parseComment tsOk (p ++ (w ++ x)) =
      match parseValue tsOk t (trimSpace (w ++ x)) with
      | .ok v => some ⟨t, o, v, []⟩
      | .error e => some ⟨.invalid, o, .none, e⟩ := by
  obtain ⟨c, cs, rfl⟩ := List.exists_cons_of_ne_nil hw.1
  have h := runFrom_needsValue t o (0 + byteLen p) c (cs ++ x) (hw.2 c List.mem_cons_self) fun d hd =>
    (List.mem_append.1 hd).elim (fun h => ne_of_not_space (hw.2 d (List.mem_cons_of_mem _ h))) (hx d)
  simp only [List.append_assoc, List.cons_append] at h
  simp only [parseComment, List.append_assoc, List.cons_append, runFrom_append, hp, h, ht, if_false]
  rfl

theorem parseValue_text {s : List Char}
    (ht : t = .fileOwner ∨ t = .ruleOwner ∨ t = .fileDisable ∨ t = .disable ∨ t = .ruleSet) (hs : s ≠ []) :
    parseValue tsOk t s = .ok (.text s) := by
  rcases ht with rfl | rfl | rfl | rfl | rfl <;> simp [parseValue, hs]

theorem parseComment_text
    (hp : runFrom {} 0 p = ⟨.needsValue, [], t, o⟩)
    (ht : t = .fileOwner ∨ t = .ruleOwner ∨ t = .fileDisable ∨ t = .disable ∨ t = .ruleSet)
    {n : List Char} (hn : Word n) {b : List Char} (hb : ∀ c ∈ b, isSpace c = true ∧ c ≠ '\n') :
    parseComment tsOk (p ++ n ++ b) = some ⟨t, o, .text n, []⟩ := by
  have htr : trimSpace (n ++ b) = n :=
    trimSpace_pad (a := []) (by simp) (fun c hc => (hb c hc).1) hn hn List.prefix_rfl List.suffix_rfl
  rw [List.append_assoc, parseComment_value tsOk hp (by rintro rfl; simp at ht) hn (fun c hc => (hb c hc).2),
    htr, parseValue_text tsOk ht hn.1]

theorem parseComment_snooze
    (hp : runFrom {} 0 p = ⟨.needsValue, [], t, o⟩) (ht : t = .snooze ∨ t = .fileSnooze)
    {ts : List Char} (hts : Word ts) (hok : tsOk ts = true) {n : List Char} (hn : Word n) :
    parseComment tsOk (p ++ ts ++ ' ' :: n) = some ⟨t, o, .snooze ts n, []⟩ := by
  have hx : ∀ c ∈ ' ' :: n, c ≠ '\n' := fun c hc =>
    (List.mem_cons.1 hc).elim (fun h => h ▸ by decide) fun h => ne_of_not_space (hn.2 c h)
  have hm : trimSpace (' ' :: n) = n := by
    simpa using trimSpace_pad (a := [' ']) (b := []) (by decide) (by simp) hn hn List.prefix_rfl List.suffix_rfl
  have htr : trimSpace (ts ++ ' ' :: n) = ts ++ ' ' :: n := by
    simpa using trimSpace_pad (a := []) (b := []) (by simp) (by simp) hts hn (List.prefix_append ts _)
      ((List.suffix_cons ' ' n).trans (List.suffix_append ts _))
  rw [List.append_assoc, parseComment_value tsOk hp (by rcases ht with rfl | rfl <;> decide) hts hx, htr]
  rcases ht with rfl | rfl <;> simp [parseValue, hts.1, splitFirstSpace_append _ _ hts.2, hm, hok]

end Pint.Comments
