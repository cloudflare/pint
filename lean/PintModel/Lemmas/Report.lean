/-
  The stable sort and the insertion-time de-duplication of Model/Report are left folds from the empty list, so a
  stream that grows at its END runs one more step (`stableSort_concat`, `insertAll_concat`); and what the signs of
  the primitive comparators mean.
-/
import PintModel.Model.Report

theorem List.concat_induction {α : Type} {P : List α → Prop} (nil : P [])
    (concat : ∀ l x, P l → P (l ++ [x])) (l : List α) : P l := by
  rw [← List.reverse_reverse l]
  induction l.reverse with
  | nil => exact nil
  | cons x m ih => rw [List.reverse_cons]; exact concat _ x ih

namespace Pint.Report

variable {α : Type}

theorem insertBy_perm (le : α → α → Bool) (x : α) (l : List α) : (insertBy le x l).Perm (x :: l) := by
  fun_induction insertBy le x l with
  | case1 => exact .refl _
  | case2 y rest _ ih => exact (ih.cons y).trans (.swap x y rest)
  | case3 => exact .refl _

theorem mem_insertBy (le : α → α → Bool) (x : α) (l : List α) (z : α) : z ∈ insertBy le x l ↔ z = x ∨ z ∈ l :=
  (insertBy_perm le x l).mem_iff.trans List.mem_cons

theorem stableSort_concat (le : α → α → Bool) (l : List α) (x : α) :
    stableSort le (l ++ [x]) = insertBy le x (stableSort le l) := by
  simp only [stableSort, List.foldl_append, List.foldl_cons, List.foldl_nil]

theorem stableSort_perm (le : α → α → Bool) (l : List α) : (stableSort le l).Perm l := by
  induction l using List.concat_induction with
  | nil => exact .refl _
  | concat l x ih =>
    rw [stableSort_concat]
    exact (insertBy_perm le x _).trans ((ih.cons x).trans (List.perm_append_singleton x l).symm)

theorem insertAll_concat (s : List Rep) (r : Rep) : insertAll (s ++ [r]) = insertRep (insertAll s) r := by
  simp only [insertAll, List.foldl_append, List.foldl_cons, List.foldl_nil]

theorem insertAll_sublist (s : List Rep) : (insertAll s).Sublist s := by
  induction s using List.concat_induction with
  | nil => exact .slnil
  | concat s r ih =>
    rw [insertAll_concat, insertRep]
    split
    · exact ih.trans (List.sublist_append_left s [r])
    · exact ih.append (.refl _)

theorem insertAll_map (f : Rep → Rep) (hf : ∀ a b, isEqual (f a) (f b) = isEqual a b) (s : List Rep) :
    insertAll (s.map f) = (insertAll s).map f := by
  induction s using List.concat_induction with
  | nil => rfl
  | concat s r ih =>
    rw [List.map_append, List.map_singleton, insertAll_concat, insertAll_concat, ih]
    simp only [insertRep, List.any_map, Function.comp_def, hf]
    split
    · rfl
    · rw [List.map_append, List.map_singleton]

theorem cmpInt_nonpos (a b : Int) : cmpInt a b ≤ 0 ↔ a ≤ b := by
  fun_cases cmpInt a b <;> omega

theorem cmpInt_eq_zero (a b : Int) : cmpInt a b = 0 ↔ a = b := by
  fun_cases cmpInt a b <;> omega

theorem cmpInt_swap (a b : Int) : cmpInt a b = -cmpInt b a := by
  fun_cases cmpInt a b <;> fun_cases cmpInt b a <;> omega

theorem cmpNat_eq_cmpInt (a b : Nat) : cmpNat a b = cmpInt a b := by
  simp only [cmpNat, cmpInt, Int.ofNat_lt]

theorem cmpNat_eq_zero (a b : Nat) : cmpNat a b = 0 ↔ a = b := by
  rw [cmpNat_eq_cmpInt, cmpInt_eq_zero, Int.ofNat_inj]

theorem orElse_eq_zero (x y : Int) : orElse x y = 0 ↔ x = 0 ∧ y = 0 := by
  unfold orElse; split <;> omega

theorem orElse_nonpos (x y : Int) : orElse x y ≤ 0 ↔ x < 0 ∨ x = 0 ∧ y ≤ 0 := by
  unfold orElse; split <;> omega

theorem orElse_neg (x y : Int) : orElse (-x) (-y) = -orElse x y := by
  unfold orElse; split <;> split <;> omega

end Pint.Report
