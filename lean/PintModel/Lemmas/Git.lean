/-
What the definitions of `Model/Git.lean` do, independent of any property; before that, `filter`, `find?` and `eraseP`
on a list in which at most one element satisfies the predicate.
-/
import PintModel.Model.Git
namespace Pint.Git

section OneOf
variable {α : Type} {p q : α → Bool} {R : α → α → Prop}

/-- core has this only as the iff `List.filter_eq_self`, which rewrites an equation `l.filter p = l`, not the term -/
theorem filter_const_true (l : List α) : l.filter (fun _ => true) = l := List.filter_eq_self.mpr fun _ _ => rfl

theorem filter_and (p q : α → Bool) (l : List α) : l.filter (fun x => p x && q x) = (l.filter p).filter q := by
  rw [List.filter_filter]; exact List.filter_congr fun _ _ => Bool.and_comm _ _

theorem filter_eraseP_self (p : α → Bool) : ∀ l : List α, (l.eraseP p).filter p = (l.filter p).tail
  | [] => rfl
  | x :: xs => by
    cases h : p x
    · simp [h, filter_eraseP_self p xs]
    · simp [h]

theorem filter_eraseP_of_disjoint (h : ∀ x, p x = true → q x = false) : ∀ l : List α, (l.eraseP p).filter q = l.filter q
  | [] => rfl
  | x :: xs => by
    cases hp : p x
    · simp [hp, List.filter_cons, filter_eraseP_of_disjoint h xs]
    · simp [hp, h x hp]

theorem find_filter_of_imp {l : List α} (h : ∀ x ∈ l, p x = true → q x = true) : (l.filter q).find? p = l.find? p := by
  rw [← List.head?_filter, List.filter_filter, ← List.head?_filter (p := p)]
  refine congrArg _ (List.filter_congr fun x hx => ?_)
  cases hp : p x with
  | false => rfl
  | true => exact h x hx hp

/-- `hp`: no two elements that satisfy `p` stand in `R`, so a pairwise-`R` list has at most one (rule entries keyed by
type and name, files by path).  The `*_clash` lemmas have the shape of `hp`, double negation included. -/
theorem filter_eq_find (hp : ∀ a b, p a = true → p b = true → ¬ R a b) :
    ∀ {l : List α}, l.Pairwise R → l.filter p = (l.find? p).toList
  | [], _ => rfl
  | x :: xs, h => by
    cases hx : p x with
    | false => simp [hx, filter_eq_find hp (List.pairwise_cons.mp h).2]
    | true =>
      have : xs.filter p = [] :=
        List.filter_eq_nil_iff.mpr fun y hy hpy => hp x y hx hpy (List.rel_of_pairwise_cons h hy)
      simp [hx, this]

theorem find_of_mem (hp : ∀ a b, p a = true → p b = true → ¬ R a b) {l : List α} (h : l.Pairwise R) {x : α}
    (hx : x ∈ l) (hpx : p x = true) : l.find? p = some x := by
  have : x ∈ (l.find? p).toList := filter_eq_find hp h ▸ List.mem_filter.mpr ⟨hx, hpx⟩
  simpa using this

theorem eraseP_eq_filter (hp : ∀ a b, p a = true → p b = true → ¬ R a b) :
    ∀ {l : List α}, l.Pairwise R → l.eraseP p = l.filter fun x => !p x
  | [], _ => rfl
  | x :: xs, h => by
    cases hx : p x with
    | false => simp [hx, eraseP_eq_filter hp (List.pairwise_cons.mp h).2]
    | true =>
      have : xs.filter (fun x => !p x) = xs := List.filter_eq_self.mpr fun y hy => by
        simpa using fun hpy => hp x y hx hpy (List.rel_of_pairwise_cons h hy)
      simp [hx, this]

theorem not_of_mem_eraseP (hp : ∀ a b, p a = true → p b = true → ¬ R a b) {l : List α} (h : l.Pairwise R) :
    ∀ x ∈ l.eraseP p, p x = false := fun x hx => by
  rw [eraseP_eq_filter hp h] at hx
  simpa using (List.mem_filter.mp hx).2

theorem find_reverse (hp : ∀ a b, p a = true → p b = true → ¬ R a b) {l : List α} (h : l.Pairwise R) :
    l.reverse.find? p = l.find? p := by
  rw [← List.head?_filter, List.filter_reverse, ← List.head?_filter, filter_eq_find hp h]
  cases l.find? p <;> rfl

end OneOf

theorem atPath_eq {p : String} {f : TFile} (h : atPath p f = true) : f.path = p := by simpa [atPath] using h

theorem atPath_ne {p q : String} {f : TFile} (h : atPath p f = true) (hne : q ≠ p) : atPath q f = false := by
  simp [atPath, atPath_eq h, Ne.symm hne]

theorem atPath_clash {p : String} (f g : TFile) (hf : atPath p f = true) (hg : atPath p g = true) : ¬ f.path ≠ g.path :=
  fun h => h ((atPath_eq hf).trans (atPath_eq hg).symm)

theorem any_atPath_false {l : List TFile} {p : String} (h : l.any (atPath p) = false) : ∀ f ∈ l, f.path ≠ p :=
  fun f hf e => by simpa [atPath, e] using List.any_eq_false.mp h f hf

theorem touched_touch (c : Nat) (st : St) (d : String) (f : TFile) : touched (touch c st d f) = true := by
  simp [touched, touch]

/-- delete and move (`M`, `T`, `R`) come with the value of `applyRec` for the caller to rewrite with; for an add it is
`applyRec_add` -/
theorem applicable_cases {t : Tree} {r : Rec} (ha : applicable t r = true) :
    (r.st = .A ∧ t.live.any (atPath r.dst) = false ∧ r.src = r.dst ∧ r.exBefore = false) ∨
    ∃ f, t.live.find? (atPath r.src) = some f ∧ (r.dst = r.src ∨ t.live.any (atPath r.dst) = false) ∧
      (r.st = .D ∧ r.dst = r.src ∧
          applyRec t r = { live := t.live.eraseP (atPath r.src), dead := touch r.commit .D r.dst f :: t.dead } ∨
       (r.st ≠ .A ∧ r.st ≠ .C ∧ r.st ≠ .D) ∧
          applyRec t r = { live := touch r.commit r.st r.dst f :: t.live.eraseP (atPath r.src), dead := t.dead }) := by
  have find : t.live.any (atPath r.src) = true → ∃ f, t.live.find? (atPath r.src) = some f := fun h =>
    Option.isSome_iff_exists.mp (by simpa using h)
  cases hst : r.st <;> simp only [applicable, hst, Bool.and_eq_true, Bool.not_eq_true', beq_iff_eq, bne_iff_ne] at ha
  case A => exact .inl ⟨rfl, ha.1.1, ha.1.2, ha.2⟩
  case C => cases ha
  case D =>
    obtain ⟨f, hf⟩ := find ha.1
    exact .inr ⟨f, hf, .inl ha.2.symm, .inl ⟨rfl, ha.2.symm, by simp [applyRec, hst, hf]⟩⟩
  case R =>
    obtain ⟨f, hf⟩ := find ha.1.1
    exact .inr ⟨f, hf, .inr ha.1.2, .inr ⟨by simp, by simp [applyRec, hst, hf]⟩⟩
  case M | T =>
    obtain ⟨f, hf⟩ := find ha.1
    exact .inr ⟨f, hf, .inl ha.2.symm, .inr ⟨by simp, by simp [applyRec, hst, hf]⟩⟩

/-- a fresh file is `touch` of a file without history, so a re-created and a new file are one case -/
theorem applyRec_add {t : Tree} {r : Rec} (hst : r.st = .A) : applyRec t r =
    { live := touch r.commit r.st r.dst ((t.dead.find? (atPath r.dst)).getD ⟨r.dst, "", [], .A⟩) :: t.live,
      dead := t.dead.eraseP (atPath r.dst) } := by
  cases hd : t.dead.find? (atPath r.dst) with
  | some d => simp [applyRec, hst, hd]
  | none => simp [applyRec, hst, hd, touch, List.eraseP_of_forall_not (List.find?_eq_none.mp hd)]

theorem freshBefore_of_ne {r : Rec} (hA : r.st ≠ .A) (hC : r.st ≠ .C) : freshBefore r = r.src := by
  unfold freshBefore; split <;> simp_all

theorem step_eq (cs : List Chg) (r : Rec) : step cs r =
    { st := r.st, before := ((cs.find? (hasAfter r.src)).map (·.before)).getD (freshBefore r), after := r.dst,
      commits := ((cs.find? (hasAfter r.src)).map (·.commits)).getD [] ++ [r.commit] } :: cs.eraseP (hasAfter r.src) := by
  cases h : cs.find? (hasAfter r.src) with
  | some c => simp [step, h]
  | none => simp [step, h, List.eraseP_of_forall_not (List.find?_eq_none.mp h)]

theorem hasAfter_ne {s q : String} {c : Chg} (h : hasAfter s c = true) (hne : q ≠ s) : hasAfter q c = false := by
  have : c.after = s := by simpa [hasAfter] using h
  simp [hasAfter, this, Ne.symm hne]

theorem identical_eq (a b : Ent) : identical a b = (sameKey a b && a.content == b.content) := rfl

theorem sameKey_iff {a b : Ent} : sameKey a b = true ↔ (a.alert, a.name) = (b.alert, b.name) := by simp [sameKey]

theorem sameKey_of_identical {a b : Ent} (h : identical a b = true) : sameKey a b = true :=
  ((Bool.and_eq_true _ _).mp h).1

theorem sameKey_clash (a x y : Ent) (hx : sameKey a x = true) (hy : sameKey a y = true) : ¬ sameKey x y = false :=
  fun h => Bool.eq_false_iff.mp h (sameKey_iff.mpr ((sameKey_iff.mp hx).symm.trans (sameKey_iff.mp hy)))

theorem identical_clash (a x y : Ent) (hx : identical a x = true) (hy : identical a y = true) : ¬ sameKey x y = false :=
  sameKey_clash a x y (sameKey_of_identical hx) (sameKey_of_identical hy)

theorem sameKey_disjoint {a a' : Ent} (h : sameKey a a' = false) (x : Ent) (hx : sameKey a' x = true) : sameKey a x = false :=
  Bool.eq_false_iff.mpr fun hax =>
    Bool.eq_false_iff.mp h (sameKey_iff.mpr ((sameKey_iff.mp hax).trans (sameKey_iff.mp hx).symm))

theorem takeIdentical_eq (a : Ent) (bs : List Ent) :
    takeIdentical a bs = (bs.find? fun b => a.name != "" && identical a b, bs.eraseP fun b => a.name != "" && identical a b) := by
  fun_induction takeIdentical a bs with
  | case1 => rfl
  | case2 b bs h => simp [h]
  | case3 b bs h ih => simp [h, ih]

theorem sameRule_iff {e g : GE} : sameRule e g = true ↔ g.path = e.path ∧ g.key = e.key := by simp [sameRule]

theorem setFirst_append_left (e : GE) (B A A' : List GE) (h : setFirst e A = some A') :
    setFirst e (A ++ B) = some (A' ++ B) := by
  fun_induction setFirst e A generalizing A' with
  | case1 => cases h
  | case2 g gs hs => cases h; simp [setFirst, hs]
  | case3 g gs hs ih =>
    obtain ⟨r, hr, rfl⟩ := Option.map_eq_some_iff.mp h
    simp [setFirst, hs, ih r hr]

theorem stateFrom_path (es : List GE) (g : GE) : (stateFrom es g).path = g.path := by unfold stateFrom; split <;> rfl

theorem stateFrom_key (es : List GE) (g : GE) : (stateFrom es g).key = g.key := by unfold stateFrom; split <;> rfl

theorem sameRule_stateFrom (e : GE) (es : List GE) (g : GE) : sameRule e (stateFrom es g) = sameRule e g := by
  rw [sameRule, stateFrom_path, stateFrom_key]; rfl

theorem stateFrom_with_state (es : List GE) (g : GE) (s : Nat) : { stateFrom es g with state := s } = { g with state := s } := by
  unfold stateFrom; split <;> rfl

theorem stateFrom_cons (e : GE) (es : List GE) : stateFrom (e :: es) =
    fun g => if !e.removed && sameRule e g then { g with state := e.state } else stateFrom es g := by
  funext g
  unfold stateFrom
  rw [List.find?_cons]
  cases !e.removed && sameRule e g <;> rfl

theorem stateFrom_reverse {E : List GE}
    (h : (E.filter fun e => !e.removed).Pairwise fun a b => ¬ (a.path = b.path ∧ a.key = b.key)) :
    stateFrom E.reverse = stateFrom E := by
  funext g
  unfold stateFrom
  rw [find_reverse (fun a b ha hb hR => ?_) (List.pairwise_filter.mp h)]
  have ha := (Bool.and_eq_true _ _).mp ha
  have hb := (Bool.and_eq_true _ _).mp hb
  have ha' := sameRule_iff.mp ha.2
  have hb' := sameRule_iff.mp hb.2
  exact hR ha.1 hb.1 ⟨ha'.1.symm.trans hb'.1, ha'.2.symm.trans hb'.2⟩

end Pint.Git
