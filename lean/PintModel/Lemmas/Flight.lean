/-
  What the list operations of `Model/Flight.lean` do: the association-list cache, the holder found at a lock key, and,
  when lock keys are pairwise different, the holder list around one holder: a stage change replaces it in place.
-/
import PintModel.Model.Flight
namespace Pint.Flight

theorem lookup_filter_ne (c : List (Nat × Nat)) {k0 k : Nat} (h : k0 ≠ k) :
    lookup (c.filter fun e => e.1 != k0) k = lookup c k := by
  unfold lookup
  rw [List.find?_filter]
  congr 2
  funext e
  by_cases he : e.1 = k <;> simp [he, Ne.symm h]

theorem lookup_cacheSet (c : List (Nat × Nat)) (k0 a k : Nat) :
    lookup (cacheSet c k0 a) k = if k0 = k then some a else lookup c k := by
  by_cases h : k0 = k
  · simp [lookup, cacheSet, h]
  · simpa [lookup, cacheSet, h] using lookup_filter_ne c h

theorem lookup_cacheDel (c : List (Nat × Nat)) (k0 k : Nat) :
    lookup (cacheDel c k0) k = if k0 = k then none else lookup c k := by
  by_cases h : k0 = k
  · simp [lookup, cacheDel, h]
  · simpa [cacheDel, h] using lookup_filter_ne c h

/-- the holder comes by its fields, so that what callers need of its stage is `rfl` once the stage is known -/
theorem holderAt_spec {hs : List Holder} {lk : Nat} {p : Holder → Bool} (h : ((holderAt hs lk).any p) = true) :
    ∃ key st, holderAt hs lk = some ⟨lk, key, st⟩ ∧ (⟨lk, key, st⟩ : Holder) ∈ hs ∧ p ⟨lk, key, st⟩ = true := by
  obtain ⟨⟨_, key, st⟩, hf, hp⟩ := (Option.any_eq_true ..).mp h
  obtain rfl : _ = lk := eq_of_beq (List.find?_some hf :)
  exact ⟨key, st, hf, List.mem_of_find?_eq_some hf, hp⟩

theorem keyAt_eq {s : St} {lk : Nat} {x : Holder} (h : holderAt s.holders lk = some x) : keyAt s lk = x.key := by
  simp [keyAt, h]

theorem holderAt_stage {s : St} {lk : Nat} {st : Stage} (h : ((holderAt s.holders lk).any fun x => x.stage == st) = true) :
    ∃ key, (⟨lk, key, st⟩ : Holder) ∈ s.holders ∧ keyAt s lk = key := by
  obtain ⟨key, _, hxa, hx, hp⟩ := holderAt_spec h
  obtain rfl := eq_of_beq hp
  exact ⟨key, hx, keyAt_eq hxa⟩

theorem inflightKeys_sublist (s : St) : (inflightKeys s).Sublist (s.holders.map (·.key)) :=
  List.filter_sublist.map _

/-- a request at the server occupies a worker -/
theorem length_inflightKeys_le (s : St) : (inflightKeys s).length ≤ active s.holders := by
  unfold inflightKeys active
  rw [List.length_map, ← List.countP_eq_length_filter]
  exact List.countP_mono_left fun x _ hx => by rw [eq_of_beq hx]; rfl

theorem any_flying_iff {hs : List Holder} {k : Nat} :
    (hs.any fun h => h.key == k && flyingB h.stage) = true ↔ ∃ y ∈ hs, y.key = k ∧ flyingB y.stage = true := by
  simp

theorem exists_middle_of_map_nodup {α β : Type} {f : α → β} {l : List α} (hn : (l.map f).Nodup) {x : α} (hx : x ∈ l) :
    ∃ l₁ l₂, l = l₁ ++ x :: l₂ ∧ ∀ a ∈ l₁ ++ l₂, f a ≠ f x := by
  obtain ⟨l₁, l₂, rfl⟩ := List.append_of_mem hx
  have hp := (List.pairwise_middle (fun h => Ne.symm h)).mp (List.pairwise_map.mp hn)
  exact ⟨l₁, l₂, rfl, fun a ha e => (List.pairwise_cons.mp hp).1 a ha e.symm⟩

theorem eq_of_map_nodup {α β : Type} {f : α → β} {l : List α} (hn : (l.map f).Nodup) {x y : α} (hx : x ∈ l) (hy : y ∈ l)
    (h : f y = f x) : y = x := by
  obtain ⟨l₁, l₂, e, hne⟩ := exists_middle_of_map_nodup hn hx
  rcases (by simpa [e] using hy : y ∈ l₁ ∨ y = x ∨ y ∈ l₂) with h1 | h1 | h1
  · exact absurd h (hne y (List.mem_append_left _ h1))
  · exact h1
  · exact absurd h (hne y (List.mem_append_right _ h1))

theorem setStage_of_ne {lk : Nat} (st : Stage) {hs : List Holder} (h : ∀ x ∈ hs, x.lk ≠ lk) : setStage lk st hs = hs :=
  (List.map_congr_left fun a ha => if_neg (by simp [h a ha])).trans (List.map_id hs)

theorem setStage_split {x : Holder} (st : Stage) {l₁ l₂ : List Holder} (h : ∀ y ∈ l₁ ++ l₂, y.lk ≠ x.lk) :
    setStage x.lk st (l₁ ++ x :: l₂) = l₁ ++ { x with stage := st } :: l₂ := by
  have h' := List.forall_mem_append.mp h
  have e : setStage x.lk st (l₁ ++ x :: l₂) = setStage x.lk st l₁ ++ { x with stage := st } :: setStage x.lk st l₂ := by
    simp [setStage]
  rw [e, setStage_of_ne st h'.1, setStage_of_ne st h'.2]

end Pint.Flight
