import PintModel.Model.Inject
import PintModel.Lemmas.Position
namespace Pint.Inject
open Pint.Position

theorem mem_allLines {ds : List Diag} {l : Nat} : l ∈ allLines ds ↔ ∃ d ∈ ds, ∃ p ∈ d.pos, p.line = l := by
  simp [allLines]

theorem allLines_eq_nil {ds : List Diag} : allLines ds = [] ↔ ∀ d ∈ ds, d.pos = [] := by
  simp [allLines]

theorem inject_writes {n : Nat} {ds : List Diag} {l : Nat} (hl : l ∈ allLines ds) (h1 : 1 ≤ l) (hn : l ≤ n) :
    ∃ out, inject n ds = some out ∧
      (l, (List.range ds.length).filter fun i => linesLast (diagPositions (ds.getD i default)) = l) ∈ out := by
  unfold inject
  cases hm : (allLines ds).max? with
  | none => rw [List.max?_eq_none_iff.mp hm] at hl; cases hl
  | some last =>
    have hle : l ≤ last := by simpa [hm] using List.le_max?_getD_of_mem (k := 0) hl
    refine ⟨_, rfl, List.mem_filterMap.mpr ⟨l - 1, List.mem_range.mpr (by omega), ?_⟩⟩
    simp only [Nat.sub_add_cancel h1, covered, List.contains_iff_mem, hl, hle, and_self, if_true]

theorem clamp_bounds (d : Diag) (hlen : 1 ≤ posLen d.pos) :
    1 ≤ clampFirst d ∧ clampFirst d ≤ clampLast d ∧ clampFirst d ≤ posLen d.pos := by
  unfold clampLast clampFirst
  omega

/-- never an empty selection when the value has positions: the two `max` in the clamps are repair 9ada206 (with them
a diagnostic about `for: ""` keeps its message) -/
theorem diagPositions_nonempty (d : Diag) (hlen : 1 ≤ posLen d.pos) : diagPositions d ≠ [] :=
  have ⟨h1, h2, h3⟩ := clamp_bounds d hlen
  readRange_ne_nil h1 h2 h3

theorem linesLast_eq_max (prs : List PR) : linesLast prs = ((prs.map (·.line)).max?).getD 0 := by
  cases prs with
  | nil => rfl
  | cons p ps => rw [List.map_cons, List.max?_cons', List.foldl_map]; rfl

theorem linesLast_mem {prs : List PR} (h : prs ≠ []) : ∃ q ∈ prs, linesLast prs = q.line := by
  rw [linesLast_eq_max]
  cases hm : (prs.map (·.line)).max? with
  | none => simp_all
  | some m => simpa [eq_comm] using List.max?_mem hm

theorem message_line_is_own_line (d : Diag) (hlen : 1 ≤ posLen d.pos) :
    ∃ q ∈ d.pos, linesLast (diagPositions d) = q.line := by
  obtain ⟨p, hp, hl⟩ := linesLast_mem (diagPositions_nonempty d hlen)
  obtain ⟨q, hq, hql⟩ := line_mem_of_mem_readRange hp
  exact ⟨q, hq, hl.trans hql.symm⟩

theorem insideAt_iff {dps : List PR} {l c : Nat} :
    insideAt dps l c = true ↔ ∃ p ∈ dps, p.line = l ∧ p.first ≤ c ∧ c ≤ p.last := by
  simp [insideAt, and_assoc]

theorem insideAt_iff_cell (dps : List PR) (l c : Nat) : insideAt dps l c = true ↔ (l, c) ∈ cells dps :=
  insideAt_iff.trans (mem_cells (x := (l, c))).symm

theorem beforeAt_iff {dps : List PR} {l c : Nat} : beforeAt dps l c = true ↔ ∃ p ∈ dps, p.line = l ∧ c < p.first := by
  simp [beforeAt]

end Pint.Inject
