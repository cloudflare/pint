/-
`parsedRule.isEnabled` in closed form (`instEnabled_eq`).  One more comment or one more disabled name changes the
decision of one instance to `!drop && decision`; `getChecks_filter` lifts that to the list of checks, and every
"switching off" result of C07 and C08 is an instance of it.
-/
import PintModel.Model.Enable
namespace Pint.Enable

variable {re : Re} {cmd : String} {en dis en' dis' : List String} {rules : List CfgRule} {e e' : Entry}

/-- The filter law of the selection loop (`GetChecksForEntry`): a change of the entry's comments or of the flag lists
    that only switches the dropped instances off removes exactly these, provided instances with equal `String()` are
    dropped together: the duplicate test then cannot tell the difference. -/
theorem getChecks_filter (drop : Inst → Bool) (insts : List Inst)
    (hm : ∀ ig ma, isMatch re cmd e' ig ma = isMatch re cmd e ig ma)
    (hdec : ∀ i ∈ insts, ∀ b,
      instEnabled re cmd en' dis' rules b e' i = (!drop i && instEnabled re cmd en dis rules b e i))
    (hstr : ∀ i ∈ insts, ∀ j ∈ insts, i.str = j.str → drop i = drop j) :
    getChecks re cmd en' dis' rules e' insts = (getChecks re cmd en dis rules e insts).filter fun i => !drop i := by
  suffices h : ∀ rest acc, (∀ i ∈ rest, i ∈ insts) → (∀ i ∈ acc, i ∈ insts) →
      selectFrom re cmd en' dis' rules e' rest (acc.filter fun i => !drop i) =
        (selectFrom re cmd en dis rules e rest acc).filter fun i => !drop i from
    h insts [] (fun _ h => h) (fun _ => nofun)
  intro rest
  induction rest with
  | nil => intro acc _ _; rfl
  | cons i rest ih =>
    intro acc hrest hacc
    have hi : i ∈ insts := hrest i List.mem_cons_self
    have hrest' : ∀ j ∈ rest, j ∈ insts := fun j hj => hrest j (List.mem_cons_of_mem _ hj)
    -- the induction hypothesis, read backwards, makes both sides an `if` between selections from `rest` after the change
    rw [selectFrom, selectFrom, hm, hdec i hi, apply_ite (List.filter _), ← ih acc hrest' hacc,
      ← ih (acc ++ [i]) hrest' fun j hj => (List.mem_append.1 hj).elim (hacc j) fun h => List.mem_singleton.1 h ▸ hi]
    cases hd : drop i
    · -- `i` is kept: the kept instances with its `String()` are all of them, so the duplicate test answers the same
      have hdup : ((acc.filter fun i => !drop i).map (·.str)).contains i.str = (acc.map (·.str)).contains i.str := by
        rw [Bool.eq_iff_iff]
        simp only [List.contains_iff_mem, List.mem_map, List.mem_filter, Bool.not_eq_eq_eq_not]
        exact ⟨fun ⟨j, ⟨hj, _⟩, hs⟩ => ⟨j, hj, hs⟩,
          fun ⟨j, hj, hs⟩ => ⟨j, ⟨hj, by rw [hstr j (hacc j hj) i hi hs, hd]; rfl⟩, hs⟩⟩
      rw [hdup]
      simp [hd]
    · -- `i` is dropped: not selected on the left, and on the right the filter takes it out of `acc ++ [i]` again
      simp [hd]

theorem getChecks_congr (insts : List Inst) (hm : ∀ ig ma, isMatch re cmd e' ig ma = isMatch re cmd e ig ma)
    (h : ∀ i ∈ insts, ∀ b, instEnabled re cmd en' dis' rules b e' i = instEnabled re cmd en dis rules b e i) :
    getChecks re cmd en' dis' rules e' insts = getChecks re cmd en dis rules e insts :=
  (getChecks_filter (fun _ => false) insts hm h (by simp)).trans (List.filter_eq_self.mpr fun _ _ => rfl)

theorem instEnabled_congr {i : Inst} (dup : Bool) (hs : e'.state = e.state) (hm : ∀ ig ma, isMatch re cmd e' ig ma = isMatch re cmd e ig ma)
    (h1 : isEnabledBy en e'.fileDisabled e' i = isEnabledBy en e.fileDisabled e i)
    (h2 : isEnabledBy en dis' e' i = isEnabledBy en dis e i) :
    instEnabled re cmd en dis' rules dup e' i = instEnabled re cmd en dis rules dup e i := by
  simp only [instEnabled, hs, hm, h1, h2]

theorem isEnabledBy_congr {i : Inst} (h : isDisabledForRule e' i = isDisabledForRule e i) :
    isEnabledBy en dis e' i = isEnabledBy en dis e i := by
  simp only [isEnabledBy, h]

/-- rule comments count only through `isDisabledForRule` -/
theorem getChecks_ruleComments (insts : List Inst) (hs : e'.state = e.state) (hf : e'.fileDisabled = e.fileDisabled)
    (hm : ∀ ig ma, isMatch re cmd e' ig ma = isMatch re cmd e ig ma)
    (h : ∀ i, isDisabledForRule e' i = isDisabledForRule e i) :
    getChecks re cmd en dis rules e' insts = getChecks re cmd en dis rules e insts :=
  getChecks_congr insts hm fun i _ b =>
    instEnabled_congr b hs hm (hf ▸ isEnabledBy_congr (h i)) (isEnabledBy_congr (h i))

theorem instEnabled.go_eq (i : Inst) (rs : List CfgRule) (en : Bool) :
    instEnabled.go i rs en =
      if rs.any (·.disable.contains i.name) then none else some (en || rs.any (·.enable.contains i.name)) := by
  induction rs generalizing en with
  | nil => simp [instEnabled.go]
  | cons r rest ih =>
    simp only [instEnabled.go, ih, List.any_cons, Bool.or_eq_true, Bool.or_assoc]
    by_cases h : r.disable.contains i.name = true <;> simp only [h, Bool.false_eq_true, true_or, false_or, if_true, if_false]

theorem instEnabled_eq (dup : Bool) (i : Inst) :
    instEnabled re cmd en dis rules dup e i =
      (i.states.contains e.state && isEnabledBy en e.fileDisabled e i &&
        !(rules.filter fun r => isMatch re cmd e r.ignore r.match_).any (·.disable.contains i.name) &&
        ((rules.filter fun r => isMatch re cmd e r.ignore r.match_).any (·.enable.contains i.name) ||
          (isEnabledBy en dis e i && !dup))) := by
  simp only [instEnabled, instEnabled.go_eq, Bool.false_or]
  -- a statement about six Booleans; a pattern abstracts the first term it fits, so the two `(rules.filter _).any _`
  -- take the `disable` and the `enable` test in turn
  generalize i.states.contains e.state = a, isEnabledBy en e.fileDisabled e i = b, (rules.filter _).any _ = c,
    (rules.filter _).any _ = d, isEnabledBy en dis e i = x
  revert a b c d x dup
  decide

/-- Lifts `decision' = !x && decision` from `isEnabledBy` to `instEnabled`; `x`: the change switches `i` off.
    `isEnabled` is asked twice, about `fileDisabled` (`h1`) and about the `disabled` flag list (`h2`).  The first answer
    carries the factor `!x`; where `x` holds it makes both sides `false` by itself, so `h2` is wanted for `x = false` only.
    Hence for changes of the entry; for the flag list alone, `instEnabled_of_disabled`. -/
theorem instEnabled_drop {i : Inst} {x : Bool} (dup : Bool) (hs : e'.state = e.state)
    (hm : ∀ ig ma, isMatch re cmd e' ig ma = isMatch re cmd e ig ma)
    (h1 : isEnabledBy en e'.fileDisabled e' i = (!x && isEnabledBy en e.fileDisabled e i))
    (h2 : x = false → isEnabledBy en dis' e' i = isEnabledBy en dis e i) :
    instEnabled re cmd en dis' rules dup e' i = (!x && instEnabled re cmd en dis rules dup e i) := by
  cases x with
  | false => exact instEnabled_congr dup hs hm h1 (h2 rfl)
  | true => simp [instEnabled_eq, h1]

/-- `rule { enable }` is the only way past the flags -/
theorem instEnabled_of_disabled {i : Inst} (dup : Bool) (hne : ∀ r ∈ rules, i.name ∉ r.enable)
    (h : isEnabledBy en dis e i = false) : instEnabled re cmd en dis rules dup e i = false := by
  have he : (rules.filter fun r => isMatch re cmd e r.ignore r.match_).any (·.enable.contains i.name) = false :=
    List.any_eq_false.2 fun r hr => by simpa using hne r (List.mem_filter.1 hr).1
  rw [instEnabled_eq, he, h]
  simp

theorem isEnabledBy_disabled_cons (en dis : List String) (N : String) (e : Entry) (i : Inst) :
    isEnabledBy en (N :: dis) e i =
      (!((N = i.name || N = i.str || (tagged i.name i.tags).contains N) && !i.always) && isEnabledBy en dis e i) := by
  have key : ∀ a l x y z : Bool, (if a then true else if l then false else if (x || y) then false else z) =
      (!(x && !a) && if a then true else if l then false else if y then false else z) := by decide
  simp only [isEnabledBy, List.any_cons]
  exact key ..


/-- `x`: the one more rule comment is live and names `i` -/
theorem isEnabledBy_comment {i : Inst} {x : Bool} (h : isDisabledForRule e' i = (x || isDisabledForRule e i)) :
    isEnabledBy en dis e' i = (!(x && !i.always && !i.locked) && isEnabledBy en dis e i) := by
  have key : ∀ a l x y z : Bool, (if a then true else if (!l && (x || y)) then false else z) =
      (!(x && !a && !l) && if a then true else if (!l && y) then false else z) := by decide
  simp only [isEnabledBy, h]
  exact key ..

theorem mem_disableOnline {n : String} (online disabled : List String) :
    n ∈ disableOnline online disabled ↔ n ∈ disabled ∨ n ∈ online := by
  induction online generalizing disabled with
  | nil => simp [disableOnline]
  | cons a rest ih =>
    rw [disableOnline, List.foldl_cons, ← disableOnline, ih, List.mem_cons, ← or_assoc]
    refine or_congr_left ?_
    split
    next h => exact ⟨.inl, fun hn => hn.elim id fun hn => hn ▸ List.contains_iff_mem.1 h⟩
    next => simp

end Pint.Enable
