/-
  What the operations of `Model/Cache.lean` do to a lookup.
-/
import PintModel.Model.Cache
namespace Pint.Cache

theorem look_snd (c : Cache) (k : Nat) :
    (look c k).2 = (find c k).bind fun e => if expired c e then none else some e.val := by
  unfold look
  cases find c k with
  | none => rfl
  | some e => by_cases h : expired c e = true <;> simp [h]

theorem find_put_self (c : Cache) (k v ttl : Nat) :
    find (put c k v ttl) k = some { key := k, val := v, expires := if ttl > 0 then some (c.now + ttl) else none, lastGet := c.now } := by
  simp [find, put]

theorem find_advance (c : Cache) (d k : Nat) : find (advance c d) k = find c k := rfl

theorem expired_sweep (c : Cache) (e : Entry) : expired (sweep c) e = expired c e := rfl

theorem mem_sweep {c : Cache} {e : Entry} : e ∈ (sweep c).entries ↔ e ∈ c.entries ∧ dead c e = false := by
  simp [sweep]

/-- a sweep looks at expiry exactly as `get` does, and at staleness besides -/
theorem dead_eq (c : Cache) (e : Entry) : dead c e = (expired c e || decide (c.now - e.lastGet ≥ c.maxStale)) := rfl

theorem find_sweep {c : Cache} {k : Nat} {e : Entry} (h : find c k = some e) (hl : dead c e = false) :
    find (sweep c) k = some e := by
  obtain ⟨hk, as, bs, hc, has⟩ := List.find?_eq_some_iff_append.mp h
  simp only [find, sweep, hc, List.filter_append, List.filter_cons, hl, Bool.not_false, if_true]
  refine List.find?_eq_some_iff_append.mpr ⟨hk, _, _, rfl, fun a ha => has a (List.mem_filter.mp ha).1⟩

theorem look_sweep_of_live {c : Cache} {k : Nat} {e : Entry} (h : find c k = some e) (hl : dead c e = false) :
    (look (sweep c) k).2 = some e.val := by
  rw [look_snd, find_sweep h hl]
  rw [dead_eq, Bool.or_eq_false_iff] at hl
  simp [expired_sweep, hl.1]

end Pint.Cache
