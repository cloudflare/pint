/-
  `appendPos` adds exactly one cell to `cells`, hence `compress` is a right inverse of `cells` and `readRange` cuts the
  cell list. Ranges built by `appendPos` have `first ≤ last`; the hypothesis is written out (Props/C06 names it `WF`).
-/
import PintModel.Model.Position

theorem List.cons_eq_drop {α : Type} {x : α} {xs l : List α} {k : Nat} (h : x :: xs = l.drop k) :
    l[k]? = some x ∧ xs = l.drop (k + 1) := by
  rw [← List.head?_drop, ← List.tail_drop, ← h]
  exact ⟨rfl, rfl⟩

theorem List.forall_mem_ite {α : Type} {P : α → Prop} {c : Prop} [Decidable c] {s t : List α}
    (hs : ∀ x ∈ s, P x) (ht : ∀ x ∈ t, P x) : ∀ x ∈ (if c then s else t), P x := by
  split <;> assumption

theorem List.filterMap_range_prefix {β : Type} (f : Nat → Option β) (g : Nat → β) (m : Nat)
    (h1 : ∀ o, o < m → f o = some (g o)) (h2 : ∀ o, m ≤ o → f o = none) :
    ∀ len, (List.range len).filterMap f = (List.range (min len m)).map g := by
  intro len
  induction len with
  | zero => simp
  | succ n ih =>
    rw [List.range_succ, List.filterMap_append, ih]
    rcases Nat.lt_or_ge n m with hn | hn
    · simp [h1 n hn, Nat.min_eq_left (Nat.le_of_lt hn), Nat.min_eq_left hn, List.range_succ]
    · simp [h2 n hn, Nat.min_eq_right hn, Nat.min_eq_right (Nat.le_succ_of_le hn)]

namespace Pint.Position

theorem cells_append (a b : List PR) : cells (a ++ b) = cells a ++ cells b := by
  simp [cells]

theorem mem_cells {prs : List PR} {x : Nat × Nat} :
    x ∈ cells prs ↔ ∃ p ∈ prs, p.line = x.1 ∧ p.first ≤ x.2 ∧ x.2 ≤ p.last := by
  simp only [cells, List.mem_flatMap, List.mem_map, List.mem_range]
  constructor
  · rintro ⟨p, hp, k, hk, rfl⟩
    exact ⟨p, hp, rfl, Nat.le_add_right _ _, Nat.le_of_lt_succ (Nat.add_lt_of_lt_sub' hk)⟩
  · rintro ⟨p, hp, hl, h1, h2⟩
    exact ⟨p, hp, x.2 - p.first, Nat.sub_lt_sub_right h1 (Nat.lt_succ_of_le h2), by rw [hl, Nat.add_sub_cancel' h1]⟩

theorem length_cells (prs : List PR) : (cells prs).length = posLen prs := by
  simp [cells, posLen, List.length_flatMap]

theorem cells_single (l c : Nat) : cells [⟨l, c, c⟩] = [(l, c)] := by
  simp [cells]

theorem cells_extend (p : PR) (h : p.first ≤ p.last) :
    cells [{ p with last := p.last + 1 }] = cells [p] ++ [(p.line, p.last + 1)] := by
  have h' : p.first ≤ p.last + 1 := Nat.le_succ_of_le h
  simp [cells, Nat.sub_add_comm h', List.range_succ, Nat.add_sub_cancel' h']

theorem forall_mem_appendPos {P : PR → Prop} {acc : List PR} {l c : Nat} (hacc : ∀ p ∈ acc, P p) (hnew : P ⟨l, c, c⟩)
    (hgrow : ∀ p, P p → p.line = l → p.last + 1 = c → P { p with last := c }) : ∀ p ∈ appendPos acc l c, P p := by
  fun_cases appendPos acc l c with
  | case1 => simpa using hnew
  | case2 q rest h =>
    obtain ⟨hq, hrest⟩ := List.forall_mem_cons.mp hacc
    exact List.forall_mem_cons.mpr ⟨hgrow q hq h.1 h.2, hrest⟩
  | case3 q rest _ => exact List.forall_mem_cons.mpr ⟨hnew, hacc⟩

theorem appendPos_wf {acc : List PR} (hw : ∀ p ∈ acc, p.first ≤ p.last) (l c : Nat) :
    ∀ p ∈ appendPos acc l c, p.first ≤ p.last :=
  forall_mem_appendPos hw (Nat.le_refl c) fun p hp _ hc => by simp only; omega

theorem cells_appendPos {acc : List PR} (hw : ∀ p ∈ acc, p.first ≤ p.last) (l c : Nat) :
    cells (appendPos acc l c).reverse = cells acc.reverse ++ [(l, c)] := by
  fun_cases appendPos acc l c with
  | case1 => exact cells_single l c
  | case2 p rest h =>
    obtain ⟨rfl, rfl⟩ := h
    simp [cells_append, cells_extend p (hw p (by simp))]
  | case3 p rest _ => simp only [List.reverse_cons, cells_append, cells_single, List.append_assoc]

theorem cells_foldl_appendPos (cs : List (Nat × Nat)) (acc : List PR) (hw : ∀ p ∈ acc, p.first ≤ p.last) :
    cells (cs.foldl (fun acc c => appendPos acc c.1 c.2) acc).reverse = cells acc.reverse ++ cs := by
  induction cs generalizing acc with
  | nil => simp
  | cons c rest ih => simp [ih _ (appendPos_wf hw c.1 c.2), cells_appendPos hw c.1 c.2]

theorem cells_compress (cs : List (Nat × Nat)) : cells (compress cs) = cs := by
  simpa [compress, cells] using cells_foldl_appendPos cs [] (by simp)

theorem compress_wf (cs : List (Nat × Nat)) : ∀ p ∈ compress cs, p.first ≤ p.last := by
  simp only [compress, List.mem_reverse]
  exact List.foldlRecOn (motive := fun acc : List PR => ∀ p ∈ acc, p.first ≤ p.last) cs _ (by simp)
    fun acc h c _ => appendPos_wf h c.1 c.2

theorem cells_readRange (first last : Nat) (prs : List PR) :
    cells (readRange first last prs) = ((cells prs).drop (first - 1)).take (last - (first - 1)) :=
  cells_compress _

theorem posLen_readRange (first last : Nat) (prs : List PR) :
    posLen (readRange first last prs) = min (last - (first - 1)) (posLen prs - (first - 1)) := by
  rw [← length_cells, cells_readRange, List.length_take, List.length_drop, length_cells]

/-- `PositionRanges.Len() > 0` for a range that falls inside the position list -/
theorem readRange_ne_nil {first last : Nat} {prs : List PR} (h1 : 1 ≤ first) (h2 : first ≤ last)
    (h3 : first ≤ posLen prs) : readRange first last prs ≠ [] := by
  intro h
  have := posLen_readRange first last prs
  rw [h, show posLen [] = 0 from rfl] at this
  omega

theorem line_mem_of_mem_readRange {first last : Nat} {prs : List PR} {p : PR} (hp : p ∈ readRange first last prs) :
    ∃ q ∈ prs, q.line = p.line := by
  have hc : (p.line, p.first) ∈ cells (readRange first last prs) :=
    mem_cells.mpr ⟨p, hp, rfl, Nat.le_refl _, compress_wf _ p hp⟩
  rw [cells_readRange] at hc
  obtain ⟨q, hq, hl, _⟩ := mem_cells.mp (List.mem_of_mem_drop (List.mem_of_mem_take hc))
  exact ⟨q, hq, hl⟩

theorem lineStep_eq_scanLine (value : List Nat) (li col ni : Nat) (offs : List PR) {line : List Nat}
    (h : line.length ≠ 0) :
    ∃ c, min line.length col ≤ c ∧
      lineStep value li col ni offs line = scanLine value li c (line.drop (c - 1)) 0 ni offs := by
  unfold lineStep
  rw [if_neg h]
  exact ⟨_, by split <;> simp, rfl⟩

theorem npr_nonempty (lines : List (List Nat)) (value : List Nat) (vLine vCol minCol : Nat) :
    newPositionRange lines value vLine vCol minCol ≠ [] := by
  simp [newPositionRange, apply_ite (· = [])]

end Pint.Position
