/-
What the transfer functions of `Model/LabelFlow` do to `canHave`, as equations between Booleans: each leaves
`canHave s n` alone or combines it with a test on `n`; at the nodes that filter label sets (`by`, `without`, `on`,
`ignoring`) the test is the filter `possible` applies.
-/
import PintModel.Model.LabelFlow
namespace Pint.LabelFlow

/-- `Q` holds until `x` is met, `P` from then on -/
theorem foldl_of_mem {σ α : Type} {f : σ → α → σ} {P Q : σ → Prop} {x : α}
    (inv : ∀ s y, Q s → Q (f s y)) (keep : ∀ s y, P s → P (f s y)) (est : ∀ s, Q s → P (f s x)) :
    ∀ (l : List α) (s : σ), x ∈ l → Q s → P (l.foldl f s)
  | y :: ys, s, hx, hq => by
    rcases List.mem_cons.mp hx with rfl | hx
    · exact List.foldlRecOn ys f (est s hq) fun t ht y _ => keep t y ht
    · exact foldl_of_mem inv keep est ys _ hx (inv s y hq)

theorem foldl_const {σ α β : Type} {f : σ → α → σ} (g : σ → β) (h : ∀ s y, g (f s y) = g s) (l : List α) (s : σ) :
    g (l.foldl f s) = g s :=
  List.foldlRecOn (motive := fun t => g t = g s) l f rfl fun t ht y _ => (h t y).trans ht

theorem mem_appendTo {dst vs : LS} {x : String} : x ∈ appendTo dst vs ↔ x ∈ dst ∨ x ∈ vs := by
  unfold appendTo
  induction vs generalizing dst with
  | nil => simp
  | cons v vs ih =>
    rw [List.foldl_cons, ih]
    by_cases hv : v ∈ dst
    · simp only [List.contains_eq_mem, hv, decide_true, if_true, List.mem_cons]
      exact ⟨Or.imp_right Or.inr, fun h => h.elim Or.inl fun h => h.elim (fun e => Or.inl (e ▸ hv)) Or.inr⟩
    · simp [hv, or_assoc]

theorem mem_removeFrom {sl vs : LS} {x : String} : x ∈ removeFrom sl vs ↔ x ∈ sl ∧ x ∉ vs := by
  simp [removeFrom]

@[simp] theorem canHave_includeLabel (s : Src) (ns : LS) (n : String) :
    canHave (includeLabel s ns) n = (ns.contains n || canHave s n) := by
  by_cases hn : n ∈ ns <;> simp [canHave, includeLabel, mem_appendTo, mem_removeFrom, hn]

@[simp] theorem canHave_guaranteeLabel (s : Src) (ns : LS) (n : String) :
    canHave (guaranteeLabel s ns) n = (ns.contains n || canHave s n) := by
  by_cases hn : n ∈ ns <;> simp [canHave, guaranteeLabel, mem_appendTo, mem_removeFrom, hn]

theorem canHave_excludeLabel (s : Src) (ns : LS) (n : String) :
    canHave (excludeLabel s ns) n = (!ns.contains n && canHave s n) := by
  by_cases hn : n ∈ ns <;> simp [canHave, excludeLabel, mem_appendTo, mem_removeFrom, hn]

/-- the step of `includeMatching` and `reguarantee`: adding a label the source can have already changes nothing -/
theorem canHave_step {t : Src → LS → Src} (ht : ∀ s ns n, canHave (t s ns) n = (ns.contains n || canHave s n))
    (n : String) (s : Src) (x : String) : canHave (if canHave s x then t s [x] else s) n = canHave s n := by
  split
  · next hx =>
    rw [ht]
    by_cases h : n = x
    · simp [h, hx]
    · simp [h]
  · rfl

@[simp] theorem canHave_includeMatching (s : Src) (ns : LS) (n : String) :
    canHave (includeMatching s ns) n = canHave s n :=
  foldl_const (canHave · n) (canHave_step canHave_includeLabel n) ns s

theorem canHave_reguarantee (s : Src) (n : String) : canHave (reguarantee s) n = canHave s n :=
  foldl_const (canHave · n) (canHave_step canHave_guaranteeLabel n) s.selGuar s

theorem includeMatching_fixed (s : Src) (ns : LS) : (includeMatching s ns).fixed = s.fixed :=
  foldl_const (·.fixed) (fun s x => by split <;> rfl) ns s

theorem mem_incl_includeMatching {s : Src} {ns : LS} {n : String} (hn : n ∈ ns) (hc : canHave s n = true) :
    n ∈ (includeMatching s ns).incl :=
  foldl_of_mem (P := (n ∈ ·.incl)) (Q := (canHave · n = true))
    (fun s y h => by split <;> simp [h])
    (fun s y h => by split <;> simp [includeLabel, mem_appendTo, h])
    (fun s h => by simp [h, includeLabel, mem_appendTo]) ns s hn hc

theorem maybeInclude_excl (s : Src) (g : LS) : (maybeInclude s g).excl = s.excl := by
  unfold maybeInclude
  split <;> rfl

theorem mem_incl_maybeInclude {s : Src} {g : LS} {n : String} (hg : n ∈ g) (hn : n ∉ s.excl) :
    n ∈ (maybeInclude s g).incl := by
  have hany : (g.any fun n => !s.excl.contains n) = true := List.any_eq_true.mpr ⟨n, hg, by simpa using hn⟩
  rw [maybeInclude, if_pos hany]
  exact mem_appendTo.mpr (Or.inr hg)

theorem canHave_aggBySrc (g : LS) (s : Src) (n : String) :
    canHave (aggBySrc g s) n = (g.contains n && canHave s n) := by
  unfold aggBySrc
  split
  · next h => simp [canHave, List.isEmpty_iff.mp h]
  · by_cases hg : n ∈ g
    · split
      · next hf => simp [canHave, restrictTo, hg, hf]
      · next hf =>
        by_cases hn : n ∈ s.excl
        · simp [canHave, restrictTo, maybeInclude_excl, hn]
        · simp [canHave, restrictTo, maybeInclude_excl, hn, hg, mem_incl_maybeInclude hg hn, hf]
    · split <;> simp [canHave, restrictTo, hg]

theorem canHave_excludeMetricName (s : Src) (b : Bool) (g : LS) (n : String) :
    canHave (excludeMetricName s b g) n = (canHave s n && (n != nameL || b && g.contains nameL)) := by
  rw [excludeMetricName, apply_ite (canHave · n), canHave_excludeLabel]
  by_cases hn : n = nameL
  · subst hn
    cases canHave s nameL <;> simp
  · simp [hn]

/-- `analyse` at `sum by (g) (…)` -/
theorem canHave_aggBy (g : LS) (s : Src) (n : String) :
    canHave (excludeMetricName (aggBySrc g s) true g) n = (g.contains n && canHave s n) := by
  rw [canHave_excludeMetricName, canHave_aggBySrc]
  by_cases hn : n = nameL
  · subst hn
    cases g.contains nameL <;> simp
  · simp [hn]

/-- `analyse` at `sum without (g) (…)` -/
theorem canHave_aggWithout (g : LS) (s : Src) (n : String) :
    canHave (excludeMetricName (excludeLabel s g) false g) n = ((!g.contains n && n != nameL) && canHave s n) := by
  rw [canHave_excludeMetricName, canHave_excludeLabel]
  cases g.contains n <;> cases canHave s n <;> simp

/-- `analyse` at `l op on(m) r` -/
theorem canHave_binOn (m : LS) (s : Src) (n : String) :
    canHave (restrictTo { includeMatching s m with fixed := true } m) n = (m.contains n && canHave s n) := by
  by_cases hm : n ∈ m
  · -- of `includeMatching s m` only its own `canHave` at `n`, unfolded (`h`), and that `n` gets into its `incl`
    have h := canHave_includeMatching s m n
    cases hc : canHave s n <;> rw [hc] at h <;> simp [canHave] at h
    · simpa [canHave, restrictTo, hm] using fun hx => (h hx).1
    · simp [canHave, restrictTo, hm, mem_incl_includeMatching hm hc, h.1]
  · simp [canHave, restrictTo, hm]

@[simp] theorem canHave_ite_includeMatching (on : Bool) (s : Src) (m : LS) (n : String) :
    canHave (if on then includeMatching s m else s) n = canHave s n := by
  cases on <;> simp

theorem canHave_selSrc {ms : List Matcher} {n : String} :
    canHave (selSrc ms) n = true ↔ ∀ m ∈ ms, m.kind = .eqEmpty → m.label ≠ n := by
  rw [selSrc]
  simp only [canHave_excludeLabel]
  simp [canHave, mem_appendTo]

theorem mem_guar_selSrc {ms : List Matcher} {n : String} (h : n ∈ (selSrc ms).guar) : ∃ x ∈ ms, x.label = n := by
  simp only [selSrc, excludeLabel, mem_removeFrom, mem_appendTo, List.mem_map, List.mem_filter, List.not_mem_nil,
    false_or] at h
  obtain ⟨⟨x, ⟨hx, _⟩, rfl⟩, _⟩ := h
  exact ⟨x, hx, rfl⟩

theorem canHave_absentSrc {ms : List Matcher} {n : String} (h : n ∈ eqLabels ms) : canHave (absentSrc ms) n = true := by
  obtain ⟨x, hx, rfl⟩ := List.mem_map.mp h
  have hx := List.mem_filter.mp hx
  exact foldl_of_mem (x := x.label) (P := (canHave · x.label = true)) (Q := fun _ => True) (fun _ _ _ => trivial)
    (fun s y h => by simp [h]) (fun s _ => by simp) _ _
    (mem_appendTo.mpr (Or.inr (List.mem_map.mpr ⟨x, List.mem_filter.mpr ⟨hx.1, by simp [hx.2]⟩, rfl⟩))) trivial

theorem subset_of_mem_subsets {l ls : LS} (h : ls ∈ subsets l) : ∀ n ∈ ls, n ∈ l := by
  fun_induction subsets l generalizing ls with
  | case1 => simp [List.mem_singleton.mp h]
  | case2 x xs ih =>
    rcases List.mem_append.mp h with h | h
    · exact fun n hn => List.mem_cons_of_mem _ (ih h n hn)
    · obtain ⟨t, ht, rfl⟩ := List.mem_map.mp h
      exact fun n hn => List.mem_cons.mpr ((List.mem_cons.mp hn).imp id (ih ht n))

theorem mem_dropName {ls : LS} {n : String} : n ∈ dropName ls ↔ n ∈ ls ∧ n ≠ nameL := by
  simp [dropName]

theorem forall_mem_withOrWithoutName {L : List LS} {P : LS → Prop} :
    (∀ ls ∈ withOrWithoutName L, P ls) ↔ (∀ ls ∈ L, P ls) ∧ ∀ ls ∈ L, P (dropName ls) := by
  simp only [withOrWithoutName, List.forall_mem_append, List.forall_mem_map]

theorem mem_signature {on : Bool} {m a : LS} {n : String} :
    n ∈ signature on m a ↔ n ∈ a ∧ if on then n ∈ m else n ∉ m ∧ n ≠ nameL := by
  cases on <;> simp [signature]

theorem canJoin_eq_false {on : Bool} {m : LS} {ls rs : Src} :
    canJoin on m ls rs = false ↔
      ∃ n, (if on then n ∈ m else n ∈ ls.guar ∧ n ∉ m) ∧ canHave ls n = true ∧ canHave rs n = false := by
  cases on
  · simp [canJoin, and_assoc]
  · -- the `m.isEmpty` branch of `canJoin` is what `all` gives on `[]`
    have h : canJoin true m ls rs = m.all fun n => !(canHave ls n && !canHave rs n) := by cases m <;> rfl
    simp [h]

/-- the label that made `canJoin` say no is still there -/
theorem canJoin_eq_false_mono {on : Bool} {m : LS} {s s' r : Src}
    (hc : ∀ n, canHave s' n = true → canHave s n = true) (hg : on = false → ∀ n ∈ s'.guar, n ∈ s.guar)
    (h : canJoin on m s' r = false) : canJoin on m s r = false := by
  obtain ⟨n, hn, h1, h2⟩ := canJoin_eq_false.mp h
  refine canJoin_eq_false.mpr ⟨n, ?_, hc n h1, h2⟩
  cases on
  · exact ⟨hg rfl n hn.1, hn.2⟩
  · exact hn

end Pint.LabelFlow
