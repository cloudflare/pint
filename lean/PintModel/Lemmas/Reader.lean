/-
  The canonical form in which C10 compares what the reader puts out (`canon`), and the blanking of Model/Reader
  (`blankFrom`, `emptyLine`) up to that form.
-/
import PintModel.Model.Reader
namespace Pint.Reader
open Pint.Comments

def stripBlank : List Char → List Char
  | [] => []
  | c :: cs => if c = ' ' then stripBlank cs else c :: cs

/-- canonical form of a masked line: blank runs in front of nothing / in front of a comment are
    not significant (YAML ignores them), everything else is compared verbatim. -/
def canonLine (m : List Char) : List Char :=
  match stripBlank m with
  | [] => []
  | c :: cs => if c = '#' then c :: cs else m

structure COut where
  masked : List Char
  cmts : List (CType × Val × List Char)
  diagLines : List Nat
  deriving DecidableEq, Repr

/-- what C10 compares of a line's output: no `offset` of a comment and no columns of a diagnostic (the `ignore/file`
    diagnostic takes them from the comment's offset and the line's length): both move with the payload in front -/
def canon (o : Out) : COut :=
  ⟨canonLine o.masked, o.fileComments.map (fun c => (c.ctype, c.val, c.err)), o.diags.map (·.line)⟩

theorem stripBlank_spaces_append (n : Nat) (t : List Char) : stripBlank (spaces n ++ t) = stripBlank t := by
  induction n with
  | zero => rfl
  | succ n ih => simpa [spaces, List.replicate_succ, stripBlank] using ih

theorem canonLine_spaces (n : Nat) : canonLine (spaces n) = [] := by
  have h := stripBlank_spaces_append n []
  rw [List.append_nil] at h
  simp [canonLine, h, stripBlank]

theorem canonLine_spaces_hash (n : Nat) (t : List Char) : canonLine (spaces n ++ '#' :: t) = '#' :: t := by
  simp [canonLine, stripBlank_spaces_append, stripBlank]

theorem byteLen_cons (c : Char) (l : List Char) : byteLen (c :: l) = c.utf8Size + byteLen l := by
  simp [byteLen]

theorem byteLen_append (a b : List Char) : byteLen (a ++ b) = byteLen a + byteLen b := by
  simp [byteLen]

theorem blankFrom_append (b : Bool) (off i : Nat) (p t : List Char) :
    blankFrom b off i (p ++ t) = blankFrom b off i p ++ blankFrom b off (i + byteLen p) t := by
  induction p generalizing i with
  | nil => simp [blankFrom, byteLen]
  | cons c cs ih => simp [blankFrom, ih, byteLen_cons, Nat.add_assoc]

theorem blankFrom_eq_spaces {b : Bool} {off i : Nat} {l : List Char} (h : b = true ∨ i + byteLen l ≤ off) :
    blankFrom b off i l = spaces (byteLen l) := by
  induction l generalizing i with
  | nil => rfl
  | cons c cs ih =>
    have hc := c.utf8Size_pos
    rw [byteLen_cons] at h ⊢
    have hi : (decide (i < off) || b) = true := by
      rcases h with h | h
      · simp [h]
      · simp; omega
    rw [blankFrom, hi, if_pos rfl, ih (h.imp id fun h => by omega)]
    simp [spaces]

theorem blankFrom_ge {off i : Nat} {l : List Char} (h : off ≤ i) : blankFrom false off i l = l := by
  induction l generalizing i with
  | nil => rfl
  | cons c cs ih => simp [blankFrom, Nat.not_lt.2 h, ih (Nat.le_add_right_of_le h)]

theorem emptyLine_none (b : Bool) (l : List Char) : emptyLine b none l = spaces (byteLen l) :=
  blankFrom_eq_spaces (.inr (by omega : 0 + byteLen l ≤ byteLen l + 1))

theorem emptyLine_own (c : Comment) (p t : List Char) (h : c.offset = byteLen p) :
    emptyLine false (some c) (p ++ '#' :: t) = spaces (byteLen p) ++ '#' :: t := by
  simp only [emptyLine, h, blankFrom_append]
  rw [blankFrom_eq_spaces (.inr (by omega)), blankFrom_ge (by omega)]

theorem length_runFrom (tsOk : List Char → Bool) (r : RState) (n : Nat) (lastNL : Bool) (ls : List (List Char)) :
    (runFrom tsOk r n lastNL ls).2.length = ls.length := by
  induction ls generalizing r n with
  | nil => rfl
  | cons l ls ih => simp [runFrom, ih]
end Pint.Reader
