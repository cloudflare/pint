/-
  Reference meaning of the four exclusion forms (docs/ignoring.md), written independently of the
  reader: control comments are read only on lines that are *not* excluded, plus `ignore/end`
  inside a block.
-/
import PintModel.Model.Comments
namespace Pint.Spec.Exclude
open Pint.Comments

abbrev Line := List Char

inductive SState where
  | normal | nextLine | block | file
  deriving DecidableEq, Repr

/-- what the documentation says about a line, given where we are -/
inductive Class where
  | visible     -- the line counts, verbatim
  | excluded    -- the whole line is excluded payload
  | ownLine     -- the line carries its own `ignore/line` / `ignore/file`: the text before the comment is payload
  deriving DecidableEq, Repr

def ctypeOf (tsOk : List Char → Bool) (l : Line) : Option CType := (parseComment tsOk l).map (·.ctype)

def specStep (tsOk : List Char → Bool) (s : SState) (l : Line) : SState × Class :=
  match s with
  | .file => (.file, .excluded)
  | .block => if ctypeOf tsOk l = some .ignoreEnd then (.normal, .visible) else (.block, .excluded)
  | .nextLine => (.normal, .excluded)
  | .normal =>
    match ctypeOf tsOk l with
    | some .ignoreFile => (.file, .ownLine)
    | some .ignoreLine => (.normal, .ownLine)
    | some .ignoreBegin => (.block, .visible)
    | some .ignoreNextLine => (.nextLine, .visible)
    | _ => (.normal, .visible)

/-- Two lines at the same place of two files "agree outside excluded text".
    `noCtl = true` additionally demands that wholly excluded lines carry no pint control comment
    (the restriction of `C10_partial`). -/
def LineRel (tsOk : List Char → Bool) (noCtl : Bool) (s : SState) (l l' : Line) : Prop :=
  specStep tsOk s l = specStep tsOk s l' ∧
  match (specStep tsOk s l).2 with
  | .visible => l = l'
  | .excluded => noCtl = true → parseComment tsOk l = none ∧ parseComment tsOk l' = none
  | .ownLine => ∃ (p p' t : Line) (c c' : Comment),
      l = p ++ '#' :: t ∧ l' = p' ++ '#' :: t ∧
      parseComment tsOk l = some c ∧ parseComment tsOk l' = some c' ∧
      c.offset = byteLen p ∧ c'.offset = byteLen p'

/-- files that differ only inside excluded text (same number of lines) -/
inductive SameOutside (tsOk : List Char → Bool) (noCtl : Bool) : SState → List Line → List Line → Prop where
  | nil (s) : SameOutside tsOk noCtl s [] []
  | cons (s l l' ls ls') : LineRel tsOk noCtl s l l' →
      SameOutside tsOk noCtl (specStep tsOk s l).1 ls ls' → SameOutside tsOk noCtl s (l :: ls) (l' :: ls')

end Pint.Spec.Exclude
