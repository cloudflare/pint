/-
  C07 — control comments suppress exactly the targeted check on the targeted rules
  (decision level: which check instances run for which rule).
-/
import PintModel.Lemmas.Enable
import PintModel.Lemmas.Comments
import PintModel.Gen.Checks
namespace Pint.Props.C07
open Pint.Enable

def addDisable (e : Entry) (m : String) : Entry := { e with ruleDisable := m :: e.ruleDisable }
def addSnooze (e : Entry) (future : Bool) (m : String) : Entry := { e with ruleSnooze := (future, m) :: e.ruleSnooze }
def addFileDisable (e : Entry) (m : String) : Entry := { e with fileDisabled := m :: e.fileDisabled }

/-- the comment text `m` names instance `i` (its name, its String(), or name(+tag)) -/
def names (m : String) (i : Inst) : Bool := (i.name :: i.str :: tagged i.name i.tags).contains m

/-- the instances a rule-level `# pint disable m` switches off -/
def dropRule (m : String) (i : Inst) : Bool := names m i && !i.always && !i.locked
/-- the instances a `# pint file/disable m` switches off -/
def dropFile (m : String) (i : Inst) : Bool := names m i && !i.always

theorem isDisabledForRule_addDisable (e : Entry) (m : String) (i : Inst) :
    isDisabledForRule (addDisable e m) i = (names m i || isDisabledForRule e i) := by
  simp only [isDisabledForRule, addDisable, names, List.any_cons, Bool.or_assoc]

theorem isDisabledForRule_addSnooze (e : Entry) (f : Bool) (m : String) (i : Inst) :
    isDisabledForRule (addSnooze e f m) i = ((f && names m i) || isDisabledForRule e i) := by
  simp only [isDisabledForRule, addSnooze, names, List.any_cons]
  exact Bool.or_left_comm ..

theorem isEnabledBy_addDisable (en dis : List String) (e : Entry) (m : String) (i : Inst) :
    isEnabledBy en dis (addDisable e m) i = (!dropRule m i && isEnabledBy en dis e i) :=
  isEnabledBy_comment (isDisabledForRule_addDisable e m i)

theorem isEnabledBy_addSnooze (en dis : List String) (e : Entry) (f : Bool) (m : String) (i : Inst) :
    isEnabledBy en dis (addSnooze e f m) i = (!(f && names m i && !i.always && !i.locked) && isEnabledBy en dis e i) :=
  isEnabledBy_comment (isDisabledForRule_addSnooze e f m i)

/-- C07 (rule comment): adding `# pint disable m` to a rule, its state kept, removes exactly the check instances m
    names (unless unconditional or locked) for that rule; every other instance's decision is unchanged.
    Unbounded in configuration, instances, other comments. -/
theorem disable_exact (re : Re) (cmd : String) (en dis : List String) (rules : List CfgRule) (e : Entry)
    (m : String) (insts : List Inst)
    (hstr : ∀ i ∈ insts, ∀ j ∈ insts, i.str = j.str → dropRule m i = dropRule m j) :
    getChecks re cmd en dis rules (addDisable e m) insts =
      (getChecks re cmd en dis rules e insts).filter fun i => !dropRule m i :=
  getChecks_filter (dropRule m) insts (fun _ _ => rfl)
    (fun i _ b => instEnabled_drop b rfl (fun _ _ => rfl) (isEnabledBy_addDisable ..)
      fun hd => by rw [isEnabledBy_addDisable, hd]; rfl)
    hstr

/-- C07 (snooze): `# pint snooze T m` with `T` ahead selects as `# pint disable m` does -/
theorem snooze_future_eq_disable (re : Re) (cmd : String) (en dis : List String) (rules : List CfgRule) (e : Entry)
    (m : String) (insts : List Inst) :
    getChecks re cmd en dis rules (addSnooze e true m) insts = getChecks re cmd en dis rules (addDisable e m) insts :=
  getChecks_ruleComments insts rfl rfl (fun _ _ => rfl) fun i =>
    (isDisabledForRule_addSnooze e true m i).trans (isDisabledForRule_addDisable e m i).symm

/-- with `T` past it selects as no comment does -/
theorem snooze_past_noop (re : Re) (cmd : String) (en dis : List String) (rules : List CfgRule) (e : Entry)
    (m : String) (insts : List Inst) :
    getChecks re cmd en dis rules (addSnooze e false m) insts = getChecks re cmd en dis rules e insts :=
  getChecks_ruleComments insts rfl rfl (fun _ _ => rfl) (isDisabledForRule_addSnooze e false m)

/-- for a check from a `locked` block, `isEnabled` (comments and flags, one instance) answers the same with and
    without one more rule-level disable or snooze comment -/
theorem locked_ignores_rule_comments (en dis : List String) (e : Entry) (m : String) (f : Bool) (i : Inst)
    (hl : i.locked = true) :
    isEnabledBy en dis (addDisable e m) i = isEnabledBy en dis e i ∧
    isEnabledBy en dis (addSnooze e f m) i = isEnabledBy en dis e i := by
  simp [isEnabledBy_addDisable, isEnabledBy_addSnooze, dropRule, hl]

theorem isEnabledBy_fileDisable (en dis : List String) (e : Entry) (m : String) (i : Inst) :
    isEnabledBy en (m :: dis) e i = (!dropFile m i && isEnabledBy en dis e i) := by
  rw [isEnabledBy_disabled_cons, dropFile, names, List.contains_cons, List.contains_cons, Bool.or_assoc]
  rfl  -- `m == x` on strings is `decide (m = x)`

/-- C07 (file comment): one more `# pint file/disable m` (or live `file/snooze`) removes, for an entry of that file
    (state kept), exactly the instances m names (unless unconditional).  About one entry: that all entries of a file share
    `fileDisabled` is discovery's doing (`Entry.DisabledChecks`, once per file) and is not modelled. -/
theorem file_disable_exact (re : Re) (cmd : String) (en dis : List String) (rules : List CfgRule) (e : Entry)
    (m : String) (insts : List Inst)
    (hstr : ∀ i ∈ insts, ∀ j ∈ insts, i.str = j.str → dropFile m i = dropFile m j) :
    getChecks re cmd en dis rules (addFileDisable e m) insts =
      (getChecks re cmd en dis rules e insts).filter fun i => !dropFile m i :=
  getChecks_filter (dropFile m) insts (fun _ _ => rfl)
    (fun _ _ b => instEnabled_drop b rfl (fun _ _ => rfl) (isEnabledBy_fileDisable ..) fun _ => rfl)
    hstr

/-! The comment grammar on every check name, in three spellings.  The scanner takes any value without white space
(`Lemmas/Comments.lean`); of the table only that is evaluated. -/

open Pint.Comments in
theorem checkNames_words : ∀ n ∈ Gen.Checks.checkNames, Word n.toList := by
  simp only [Gen.Checks.checkNames, List.forall_mem_cons, List.not_mem_nil, false_imp_iff, implies_true, and_true]
  and_intros
  -- a literal is `String.ofList` of its runes; `toList` evaluated on it goes through the byte array, which is dear
  -- (so for the literal prefixes below)
  all_goals rw [String.toList_ofList]; decide

open Pint.Comments in
/-- `# pint disable n` and, with other blanks and one trailing, `file/disable n` parse to their type and exactly `n` -/
theorem disable_comment_parses :
    ∀ n ∈ Gen.Checks.checkNames,
      parseComment (fun _ => false) ("# pint disable " ++ n).toList = some ⟨.disable, 0, .text n.toList, []⟩ ∧
      parseComment (fun _ => false) ("#pint   file/disable  " ++ n ++ " ").toList = some ⟨.fileDisable, 0, .text n.toList, []⟩ := by
  intro n hn
  have hw := checkNames_words n hn
  simp only [String.toList_append]
  -- evaluated: the scan of the text before the name (`hp`), the comment type (`ht`), the blanks after the name (`hb`)
  refine ⟨?_, parseComment_text _ (hp := by rw [String.toList_ofList]; decide) (ht := by decide) hw (hb := by decide)⟩
  simpa using parseComment_text _ (p := "# pint disable ".toList) (b := []) (hp := by rw [String.toList_ofList]; decide)
    (ht := by decide) hw (hb := by simp)

open Pint.Comments in
/-- snooze comments: the text after the timestamp is the match, for every check name -/
theorem snooze_comment_parses :
    ∀ n ∈ Gen.Checks.checkNames,
      parseComment (fun t => t == "2099-01-01".toList) ("  # pint snooze 2099-01-01 " ++ n).toList =
        some ⟨.snooze, 2, .snooze "2099-01-01".toList n.toList, []⟩ := by
  intro n hn
  -- into the form `p ++ ts ++ ' ' :: n` of `parseComment_snooze`
  rw [show "  # pint snooze 2099-01-01 " = "  # pint snooze " ++ "2099-01-01" ++ " " from rfl]
  simp only [String.toList_append, show " ".toList = [' '] from rfl, List.append_assoc, List.singleton_append]
  rw [← List.append_assoc]
  exact parseComment_snooze _ (hp := by rw [String.toList_ofList]; decide) (ht := .inl rfl)
    (hts := by rw [String.toList_ofList]; decide) (hok := by simp) (checkNames_words n hn)

def demoI1 : Inst := Inst.mk "rule/label" "rule/label(team:true)" "rule/label" [State.noop] false [] false [] []
def demoI2 : Inst := Inst.mk "rule/label" "rule/label(env:true)" "rule/label" [State.noop] false [] false [] []
def demoE : Entry := { path := "a", kind := Kind.recording, name := "x", labels := [], annotations := none, forDur := RuleDur.absent, keepFiringFor := RuleDur.absent, state := State.noop, fileDisabled := [], ruleDisable := [], ruleSnooze := [], hasError := false }

/-- non-vacuity: two instances of rule/label with different String(), a disable comment naming one -/
theorem demo :
    (getChecks (fun _ _ => true) "lint" [] [] [] demoE [demoI1, demoI2]).map (·.str) = ["rule/label(team:true)", "rule/label(env:true)"] ∧
    (getChecks (fun _ _ => true) "lint" [] [] [] (addDisable demoE "rule/label(team:true)") [demoI1, demoI2]).map (·.str) = ["rule/label(env:true)"] := by
  -- plain `decide` costs four times as much on these string comparisons, `decide_cbv` times out
  decide +kernel

end Pint.Props.C07
