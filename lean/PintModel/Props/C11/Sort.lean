/-
  When two arrival orders sort to the same list.  `stableSort` keeps tied elements in arrival order, so its output
  is sorted by `leUpTo le before` for every relation `before` the input never runs against; where `before` decides
  all ties of `le`, that order is antisymmetric and the sorted permutation is unique (`stableSort_perm_invariant_upTo`).
  A total order on the stream is the case `before := False` (`stableSort_perm_invariant`).
-/
import PintModel.Lemmas.Report
namespace Pint.Props.C11
open Pint.Report

variable {α : Type}

structure OrdOn (le : α → α → Bool) (s : List α) : Prop where
  total : ∀ a ∈ s, ∀ b ∈ s, le a b = true ∨ le b a = true
  trans : ∀ a ∈ s, ∀ b ∈ s, ∀ c ∈ s, le a b = true → le b c = true → le a c = true
  antisymm : ∀ a ∈ s, ∀ b ∈ s, le a b = true → le b a = true → a = b

structure OrdUpTo (le : α → α → Bool) (before : α → α → Prop) (s : List α) : Prop where
  total : ∀ a ∈ s, ∀ b ∈ s, le a b = true ∨ le b a = true
  trans : ∀ a ∈ s, ∀ b ∈ s, ∀ c ∈ s, le a b = true → le b c = true → le a c = true
  tie : ∀ a ∈ s, ∀ b ∈ s, le a b = true → le b a = true → a = b ∨ before a b ∨ before b a

theorem OrdUpTo.mono {le : α → α → Bool} {before : α → α → Prop} {s t : List α} (ho : OrdUpTo le before s)
    (h : t ⊆ s) : OrdUpTo le before t :=
  ⟨fun a ha b hb => ho.total a (h ha) b (h hb),
   fun a ha b hb c hc => ho.trans a (h ha) b (h hb) c (h hc),
   fun a ha b hb => ho.tie a (h ha) b (h hb)⟩

theorem OrdOn.ordUpTo {le : α → α → Bool} {s : List α} (ho : OrdOn le s) : OrdUpTo le (fun _ _ => False) s :=
  ⟨ho.total, ho.trans, fun a ha b hb h1 h2 => .inl (ho.antisymm a ha b hb h1 h2)⟩

def leUpTo (le : α → α → Bool) (before : α → α → Prop) (a b : α) : Prop :=
  le a b = true ∧ (le b a = true → ¬ before b a)

theorem insertBy_pairwise_upTo {le : α → α → Bool} {before : α → α → Prop} {s : List α} (ho : OrdUpTo le before s)
    (x : α) (l : List α) (hx : x ∈ s) (hl : ∀ y ∈ l, y ∈ s) (hnb : ∀ y ∈ l, ¬ before x y)
    (hp : l.Pairwise (leUpTo le before)) : (insertBy le x l).Pairwise (leUpTo le before) := by
  fun_induction insertBy le x l with
  | case1 => exact List.pairwise_singleton _ _
  | case2 y rest hyx ih =>
    -- `x` goes somewhere behind `y`, and a tie of the two is not against `before`
    obtain ⟨hyrest, hprest⟩ := List.pairwise_cons.1 hp
    refine List.pairwise_cons.2 ⟨fun z hz => ?_,
      ih (List.forall_mem_cons.1 hl).2 (List.forall_mem_cons.1 hnb).2 hprest⟩
    rcases (mem_insertBy le x rest z).1 hz with rfl | h
    · exact ⟨hyx, fun _ => hnb y List.mem_cons_self⟩
    · exact hyrest z h
  | case3 y rest hyx =>
    -- `x` goes strictly in front of `y`, hence of everything behind `y`
    obtain ⟨hy, hrest⟩ := List.forall_mem_cons.1 hl
    have hxy : le x y = true := (ho.total x hx y hy).resolve_right hyx
    refine List.pairwise_cons.2 ⟨fun z hz => ?_, hp⟩
    rcases List.mem_cons.1 hz with rfl | h
    · exact ⟨hxy, fun h' => absurd h' hyx⟩
    · have hyz := ((List.pairwise_cons.1 hp).1 z h).1
      exact ⟨ho.trans x hx y hy z (hrest z h) hxy hyz,
        fun hzx => absurd (ho.trans y hy z (hrest z h) x hx hyz hzx) hyx⟩

theorem stableSort_pairwise_upTo {le : α → α → Bool} {before : α → α → Prop} {l : List α} (ho : OrdUpTo le before l)
    (hl : l.Pairwise fun a b => ¬ before b a) : (stableSort le l).Pairwise (leUpTo le before) := by
  induction l using List.concat_induction with
  | nil => exact .nil
  | concat l x ih =>
    obtain ⟨hl', -, hx⟩ := List.pairwise_append.1 hl
    have hsub := (stableSort_perm le l).subset
    rw [stableSort_concat]
    exact insertBy_pairwise_upTo ho x _ (by simp) (fun y hy => List.mem_append_left _ (hsub hy))
      (fun y hy => hx y (hsub hy) x (List.mem_singleton_self x))
      (ih (ho.mono (List.subset_append_left l [x])) hl')

theorem stableSort_perm_invariant_upTo {le : α → α → Bool} {before : α → α → Prop} {l₁ l₂ : List α}
    (hperm : l₁.Perm l₂) (ho : OrdUpTo le before l₁) (h1 : l₁.Pairwise fun a b => ¬ before b a)
    (h2 : l₂.Pairwise fun a b => ¬ before b a) :
    stableSort le l₁ = stableSort le l₂ := by
  have p1 := stableSort_perm le l₁
  have p2 := stableSort_perm le l₂
  refine List.Perm.eq_of_pairwise (le := leUpTo le before) ?_ (stableSort_pairwise_upTo ho h1)
    (stableSort_pairwise_upTo (ho.mono hperm.symm.subset) h2) (p1.trans (hperm.trans p2.symm))
  intro a b ha hb hab hba
  rcases ho.tie a (p1.subset ha) b (hperm.symm.subset (p2.subset hb)) hab.1 hba.1 with h | h | h
  · exact h
  · exact absurd h (hba.2 hab.1)
  · exact absurd h (hab.2 hba.1)

theorem stableSort_perm_invariant {le : α → α → Bool} {s l₁ l₂ : List α} (hperm : l₁.Perm l₂) (ho : OrdOn le s)
    (hsub : l₁ ⊆ s) : stableSort le l₁ = stableSort le l₂ :=
  stableSort_perm_invariant_upTo hperm (ho.ordUpTo.mono hsub) (List.pairwise_of_forall fun _ _ => id)
    (List.pairwise_of_forall fun _ _ => id)

end Pint.Props.C11
