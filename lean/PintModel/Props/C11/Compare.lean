/-
  The comparator is a three-way comparison, one for folding and sorting (the code after fix 607535a).
  `Good c`: `c` is antisymmetric in sign, transitive, and a zero means the two sides compare alike against
  everything.  Closed under `orElse` chains (`cmp.Or`), pull-backs, argument swap and `cmpList`; `cmpReports` is
  built from `cmpInt` / `cmpNat` by these.
-/
import PintModel.Lemmas.Report
namespace Pint.Props.C11
open Pint.Report

structure Good {β : Type} (c : β → β → Int) : Prop where
  swap : ∀ a b, c a b = -(c b a)
  zero : ∀ a b d, c a b = 0 → c a d = c b d
  trans : ∀ a b d, c a b ≤ 0 → c b d ≤ 0 → c a d ≤ 0

theorem Good.strict {β : Type} {c : β → β → Int} (g : Good c) (a b d : β) (h1 : c a b < 0) (h2 : c b d ≤ 0) : c a d < 0 := by
  have hle := g.trans a b d (by omega) h2
  by_cases h0 : c a d = 0
  · -- then d and a compare alike: c d b = c a b < 0, so c b d > 0
    have h3 := g.zero a d b h0
    have h4 := g.swap b d
    omega
  · omega

theorem good_cmpInt : Good cmpInt :=
  ⟨cmpInt_swap, fun a b d h => by rw [(cmpInt_eq_zero a b).1 h],
   fun a b d h1 h2 => (cmpInt_nonpos a d).2 (Int.le_trans ((cmpInt_nonpos a b).1 h1) ((cmpInt_nonpos b d).1 h2))⟩

theorem good_pull {β γ : Type} {c : γ → γ → Int} (g : Good c) (f : β → γ) : Good (fun a b => c (f a) (f b)) :=
  ⟨fun _ _ => g.swap _ _, fun _ _ _ => g.zero _ _ _, fun _ _ _ => g.trans _ _ _⟩

theorem good_cmpNat : Good cmpNat := by
  simpa only [← cmpNat_eq_cmpInt] using good_pull good_cmpInt (fun n : Nat => (n : Int))

theorem good_flip {β : Type} {c : β → β → Int} (g : Good c) : Good (fun a b => c b a) := by
  refine ⟨fun a b => g.swap b a, fun a b d h => ?_, fun a b d h1 h2 => g.trans d b a h2 h1⟩
  have h' : c a b = 0 := by have := g.swap a b; omega
  have := g.zero a b d h'
  have s1 := g.swap d a
  have s2 := g.swap d b
  omega

/-- transitivity through one `cmp.Or` step whose second components are transitive -/
theorem Good.orElse_trans {β : Type} {c : β → β → Int} (g : Good c) (a b d : β) {x y z : Int}
    (hxyz : x ≤ 0 → y ≤ 0 → z ≤ 0) (h1 : orElse (c a b) x ≤ 0) (h2 : orElse (c b d) y ≤ 0) :
    orElse (c a d) z ≤ 0 := by
  rw [orElse_nonpos] at h1 h2 ⊢
  rcases h1 with h1 | ⟨e1, h1⟩
  · exact .inl (g.strict a b d h1 (by omega))
  · rw [g.zero a b d e1]
    exact h2.imp_right fun ⟨e2, h2⟩ => ⟨e2, hxyz h1 h2⟩

theorem good_orElse {β : Type} {c₁ c₂ : β → β → Int} (g₁ : Good c₁) (g₂ : Good c₂) :
    Good (fun a b => orElse (c₁ a b) (c₂ a b)) := by
  refine ⟨fun a b => ?_, fun a b d h => ?_, fun a b d => g₁.orElse_trans a b d (g₂.trans a b d)⟩
  · rw [g₁.swap a b, g₂.swap a b, orElse_neg]
  · obtain ⟨h1, h2⟩ := (orElse_eq_zero _ _).1 h
    simp only [g₁.zero a b d h1, g₂.zero a b d h2]

theorem cmpList_swap {β : Type} {c : β → β → Int} (g : Good c) : ∀ xs ys : List β, cmpList c xs ys = -(cmpList c ys xs)
  | [], [] => rfl
  | [], _ :: _ => rfl
  | _ :: _, [] => rfl
  | x :: xs, y :: ys => by
    simp only [cmpList]
    rw [g.swap x y, cmpList_swap g xs ys, orElse_neg]

theorem cmpList_zero {β : Type} {c : β → β → Int} (g : Good c) :
    ∀ xs ys zs : List β, cmpList c xs ys = 0 → cmpList c xs zs = cmpList c ys zs
  | [], [], _, _ => rfl
  | [], _ :: _, _, h => by simp [cmpList] at h
  | _ :: _, [], _, h => by simp [cmpList] at h
  | x :: xs, y :: ys, zs, h => by
    obtain ⟨h1, h2⟩ := (orElse_eq_zero _ _).1 h
    cases zs with
    | nil => rfl
    | cons z zs => simp only [cmpList, g.zero x y z h1, cmpList_zero g xs ys zs h2]

theorem cmpList_trans {β : Type} {c : β → β → Int} (g : Good c) :
    ∀ xs ys zs : List β, cmpList c xs ys ≤ 0 → cmpList c ys zs ≤ 0 → cmpList c xs zs ≤ 0
  | [], _, [], _, _ => by simp [cmpList]
  | [], _, _ :: _, _, _ => by simp [cmpList]
  | _ :: _, [], _, h, _ => by simp [cmpList] at h
  | _ :: _, _ :: _, [], _, h => by simp [cmpList] at h
  | x :: xs, y :: ys, z :: zs, h1, h2 => g.orElse_trans x y z (cmpList_trans g xs ys zs) h1 h2

theorem good_cmpList {β : Type} {c : β → β → Int} (g : Good c) : Good (cmpList c) :=
  ⟨cmpList_swap g, cmpList_zero g, cmpList_trans g⟩

theorem eq_of_cmpList_eq_zero {β : Type} {c : β → β → Int} (hc : ∀ a b, c a b = 0 → a = b) :
    ∀ xs ys : List β, cmpList c xs ys = 0 → xs = ys
  | [], [], _ => rfl
  | [], _ :: _, h => by simp [cmpList] at h
  | _ :: _, [], h => by simp [cmpList] at h
  | x :: xs, y :: ys, h => by
    obtain ⟨h1, h2⟩ := (orElse_eq_zero _ _).1 h
    rw [hc x y h1, eq_of_cmpList_eq_zero hc xs ys h2]

theorem good_cmpDiags : Good cmpDiags :=
  good_orElse (good_flip (good_pull good_cmpInt Diag.firstCol))
    (good_orElse (good_pull good_cmpInt Diag.lastCol) (good_pull good_cmpNat Diag.msg))

theorem eq_of_cmpDiags_eq_zero (a b : Diag) (h : cmpDiags a b = 0) : a = b := by
  cases a; cases b
  simp only [cmpDiags, orElse_eq_zero, cmpInt_eq_zero, cmpNat_eq_zero] at h
  obtain ⟨rfl, rfl, rfl⟩ := h
  rfl

theorem good_cmpDiagnostics : Good cmpDiagnostics := good_pull (good_cmpList good_cmpDiags) sortDiags

theorem good_cmpRules : Good cmpRules :=
  good_orElse (good_pull good_cmpInt Rep.rFirst) <| good_orElse (good_pull good_cmpInt Rep.rLast) <|
    good_orElse (good_pull good_cmpNat Rep.ruleName) (good_pull good_cmpNat Rep.ruleKind)

theorem good_cmpReports : Good cmpReports :=
  good_orElse (good_pull good_cmpNat Rep.pathName) <| good_orElse (good_pull good_cmpInt Rep.pFirst) <|
    good_orElse (good_pull good_cmpInt Rep.pLast) <| good_orElse (good_pull good_cmpNat Rep.sev) <|
    good_orElse (good_pull good_cmpNat Rep.reporter) <| good_orElse (good_pull good_cmpNat Rep.summary) <|
    good_orElse (good_pull good_cmpDiagnostics Rep.diags) <| good_orElse (good_pull good_cmpNat Rep.details) <|
    good_orElse (good_pull good_cmpNat Rep.anchor) <| good_orElse (good_pull good_cmpNat Rep.owner) <|
    good_orElse (good_pull good_cmpNat Rep.pathTarget) good_cmpRules

theorem isEqual_refl (r : Rep) : isEqual r r = true :=
  decide_eq_true (by have := good_cmpReports.swap r r; omega)

/-- the two sides are `normRep a`, `normRep b` written out -/
theorem cmpReports_zero (a b : Rep) (h : cmpReports a b = 0) :
    { a with diags := sortDiags a.diags } = { b with diags := sortDiags b.diags } := by
  cases a; cases b
  simp only [cmpReports, cmpRules, cmpDiagnostics, orElse_eq_zero, cmpInt_eq_zero, cmpNat_eq_zero] at h
  obtain ⟨rfl, rfl, rfl, rfl, rfl, rfl, hd, rfl, rfl, rfl, rfl, rfl, rfl, rfl, rfl⟩ := h
  rw [eq_of_cmpList_eq_zero eq_of_cmpDiags_eq_zero _ _ hd]

end Pint.Props.C11
