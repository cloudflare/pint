/-
  C06 — reported positions spell the text they point at.
  Proved for every input: a diagnostic's column range [first,last] (offsets into a field's value) selects
  exactly the cells first..last of the field's position list (`readRange_exact`); the positions the scan of
  `NewPositionRange` produces lie inside the file (`npr_scan_in_file`); the caret row of `InjectDiagnostics` has a `^`
  under exactly the selected cells (`caretRow_ascii`).
  That the positions spell the value (for verbatim, block, folded or multi-line scalars) is validated by the
  readback search only.
-/
import PintModel.Lemmas.Position
import PintModel.Lemmas.Inject
namespace Pint.Props.C06
open Pint.Position

def WF (prs : List PR) : Prop := ∀ p ∈ prs, p.first ≤ p.last

/-- C06 (carets): the text under a diagnostic's column range is exactly characters first..last of the
    text under the field's positions -/
theorem readRange_exact (lines : List (List Nat)) (first last : Nat) (prs : List PR) :
    readback lines (readRange first last prs) = ((readback lines prs).drop (first - 1)).take (last - (first - 1)) := by
  simp only [readback, cells_readRange, List.map_take, List.map_drop]

theorem diagnostic_lands_on_value (lines : List (List Nat)) (value : List Nat) (prs : List PR) (first last : Nat)
    (h : readback lines prs = value) :
    readback lines (readRange first last prs) = (value.drop (first - 1)).take (last - (first - 1)) := by
  rw [readRange_exact, h]

/-! Each function of the scan carries `∀ p ∈ offs, InFile lines p` from the positions it is given to those it returns.
Both loops run over what is left of a list (`xs = l.drop k`), and that is their invariant. -/

/-- the line exists and the columns are within it, or one past it (the line break) -/
structure InFile (lines : List (List Nat)) (p : PR) : Prop where
  line_pos : 1 ≤ p.line
  line_le : p.line ≤ lines.length
  first_pos : 1 ≤ p.first
  first_le : p.first ≤ p.last
  last_le : p.last ≤ (lines.getD (p.line - 1) []).length + 1

section scan
variable {lines : List (List Nat)} {offs : List PR} {k : Nat} {line : List Nat}

theorem inFile_cell {c : Nat} (hk : lines[k]? = some line) (h1 : 1 ≤ c) (h2 : c ≤ line.length + 1) :
    InFile lines ⟨k + 1, c, c⟩ where
  line_pos := Nat.succ_pos k
  line_le := (List.getElem?_eq_some_iff.mp hk).1
  first_pos := h1
  first_le := Nat.le_refl c
  last_le := by simpa [List.getD_eq_getElem?_getD, hk] using h2

theorem appendPos_inFile {l c : Nat} (hoffs : ∀ p ∈ offs, InFile lines p) (hc : InFile lines ⟨l, c, c⟩) :
    ∀ p ∈ appendPos offs l c, InFile lines p :=
  forall_mem_appendPos hoffs hc fun p hp hl hlast => by
    subst hl hlast
    exact { hp with first_le := Nat.le_succ_of_le hp.first_le, last_le := hc.last_le }

/-- no bound on the column is asked for: past the end of the line nothing is left to scan -/
theorem scanLine_inFile (value : List Nat) (hk : lines[k]? = some line) {col : Nat} (bytes : List Nat) (gi ni j : Nat)
    (hoffs : ∀ p ∈ offs, InFile lines p) (hbytes : bytes = line.drop j) (hj : col + gi = j + 1) :
    ∀ p ∈ (scanLine value (k + 1) col bytes gi ni offs).2.1, InFile lines p := by
  induction bytes generalizing gi ni j offs with
  | nil => simpa [scanLine] using hoffs
  | cons b rest ih =>
    obtain ⟨hb, hrest⟩ := List.cons_eq_drop hbytes
    have hlt := (List.getElem?_eq_some_iff.mp hb).1
    have h' := appendPos_inFile hoffs (inFile_cell hk (c := col + gi) (by omega) (by omega))
    have hj' : col + (gi + 1) = j + 1 + 1 := by rw [← Nat.add_assoc, hj]
    simp only [scanLine, apply_ite (fun r : Nat × List PR × Bool => r.2.1)]
    exact List.forall_mem_ite (List.forall_mem_ite h' (ih _ _ _ h' hrest hj')) (ih _ _ _ hoffs hrest hj')

theorem prevBreak_inFile {li prevLen : Nat} (hoffs : ∀ p ∈ offs, InFile lines p)
    (hprev : offs ≠ [] → InFile lines ⟨li - 1, prevLen + 1, prevLen + 1⟩) :
    ∀ p ∈ prevBreak offs li prevLen, InFile lines p := by
  fun_cases prevBreak offs li prevLen with
  | case1 => exact hoffs
  | case2 h => exact appendPos_inFile hoffs (hprev (by simpa using h))

theorem lineStep_inFile (value : List Nat) (hk : lines[k]? = some line) {col : Nat} (ni : Nat) (hcol : 1 ≤ col)
    (hoffs : ∀ p ∈ offs, InFile lines p) : ∀ p ∈ (lineStep value (k + 1) col ni offs line).2.1, InFile lines p := by
  by_cases h0 : line.length = 0
  · rw [lineStep, if_pos h0]; exact hoffs
  · obtain ⟨c, hc, h⟩ := lineStep_eq_scanLine value (k + 1) col ni offs h0
    have hc1 : 1 ≤ c := Nat.le_trans (Nat.le_min.mpr ⟨Nat.pos_of_ne_zero h0, hcol⟩) hc
    rw [h]
    exact scanLine_inFile value hk _ 0 ni (c - 1) hoffs rfl (Nat.sub_add_cancel hc1).symm

/-- `hprev`: when something has been found already, the break of the previous line is a cell of the file -/
theorem nprLoop_inFile (value : List Nat) {minCol : Nat} (hmin : 1 ≤ minCol) (rest : List (List Nat))
    (prevLen col ni : Nat) (hrest : rest = lines.drop k)
    (hprev : offs ≠ [] → InFile lines ⟨k, prevLen + 1, prevLen + 1⟩) (hcol : 1 ≤ col)
    (hoffs : ∀ p ∈ offs, InFile lines p) :
    ∀ p ∈ nprLoop value minCol rest (k + 1) prevLen col ni offs, InFile lines p := by
  induction rest generalizing k prevLen col ni offs with
  | nil => simpa [nprLoop] using hoffs
  | cons line tail ih =>
    obtain ⟨hk, htail⟩ := List.cons_eq_drop hrest
    have hstep := lineStep_inFile value hk ni hcol (prevBreak_inFile (li := k + 1) hoffs hprev)
    have hnext (ni' : Nat) := ih line.length minCol ni' htail (fun _ => inFile_cell hk (Nat.succ_pos _) (Nat.le_refl _))
      hmin hstep
    simp only [nprLoop]
    exact List.forall_mem_ite hstep (List.forall_mem_ite (List.forall_mem_ite hstep (hnext _)) (hnext _))

end scan

theorem npr_scan_in_file (lines : List (List Nat)) (value : List Nat) (vLine vCol minCol : Nat)
    (hl : 1 ≤ vLine) (hc : 1 ≤ vCol) (hm : 1 ≤ minCol) :
    ∀ p ∈ nprLoop value minCol (lines.drop (vLine - 1)) vLine ((lines.getD (vLine - 2) []).length) vCol 0 [], InFile lines p := by
  have := nprLoop_inFile (lines := lines) (k := vLine - 1) (offs := []) value hm _
    (lines.getD (vLine - 2) []).length vCol 0 rfl (fun h => absurd rfl h) hc (by simp)
  rwa [Nat.sub_add_cancel hl] at this

/-- every position of a non-empty value has its LINE inside a non-empty file (for positions that come from
`NewPositionRange` this is the hypothesis `hfile` of `C02.message_written`) -/
theorem npr_lines_in_file (lines : List (List Nat)) (value : List Nat) (vLine vCol minCol : Nat)
    (hv : value ≠ []) (hl : 1 ≤ vLine) (hc : 1 ≤ vCol) (hm : 1 ≤ minCol) (hne : lines ≠ []) :
    ∀ p ∈ newPositionRange lines value vLine vCol minCol, 1 ≤ p.line ∧ p.line ≤ lines.length := by
  rw [newPositionRange, if_neg (by simpa using hv)]
  refine List.forall_mem_ite (fun p hp => ?_) fun p hp => ?_
  · cases List.mem_singleton.mp hp
    exact ⟨Nat.le_max_right _ _, Nat.max_le.mpr ⟨Nat.min_le_right _ _, List.length_pos_iff.mpr hne⟩⟩
  · have h := npr_scan_in_file lines value vLine vCol minCol hl hc hm p (List.mem_reverse.mp hp)
    exact ⟨h.line_pos, h.line_le⟩

/-- the scan alone can return nothing, which is why `newPositionRange` falls back to the node's own start (with no
    position at all `InjectDiagnostics` panics, `C02.inject_panics_iff`). The bytes are the line `expr: "\x75"`, scanned
    from column 7 for `up`, which the line does not hold (YAML reads the scalar as `u`) -/
theorem scan_can_find_nothing :
    nprLoop [117, 112] 11 ([[101, 120, 112, 114, 58, 32, 34, 92, 120, 55, 53, 34]].drop 0) 1 0 7 0 [] = [] := by
  decide

section carets
open Pint.Inject

/-- the last selected column on line `l` (0 when the line has no position) -/
def lastCol : List PR → Nat → Nat
  | [], _ => 0
  | p :: ps, l => if p.line = l then max p.last (lastCol ps l) else lastCol ps l

theorem le_lastCol_iff {dps : List PR} {l c : Nat} (hc : 1 ≤ c) :
    c ≤ lastCol dps l ↔ ∃ p ∈ dps, p.line = l ∧ c ≤ p.last := by
  induction dps with
  | nil => simpa [lastCol] using Nat.ne_of_gt hc
  | cons q qs ih =>
    simp only [lastCol, List.mem_cons, or_and_right, exists_or, exists_eq_left, ← ih]
    split
    · next h => simp only [h, true_and, Std.le_max]
    · next h => simp only [h, false_and, false_or]

theorem written_iff (dps : List PR) (hw : WF dps) (l o : Nat) :
    (insideAt dps l (o + 1) || beforeAt dps l (o + 1)) = true ↔ o < lastCol dps l := by
  rw [Nat.lt_iff_add_one_le, le_lastCol_iff (Nat.le_add_left 1 o), Bool.or_eq_true, insideAt_iff, beforeAt_iff]
  constructor
  · rintro (⟨p, hp, hl, _, h⟩ | ⟨p, hp, hl, h⟩)
    · exact ⟨p, hp, hl, h⟩
    · exact ⟨p, hp, hl, Nat.le_trans (Nat.le_of_lt h) (hw p hp)⟩
  · rintro ⟨p, hp, hl, h⟩
    rcases Nat.lt_or_ge (o + 1) p.first with hf | hf
    · exact .inr ⟨p, hp, hl, hf⟩
    · exact .inl ⟨p, hp, hl, hf, h⟩

/-- **C06, rendering**: on a line of `len` one-byte characters the row written under it is, up to the last selected
column, a `^` under every selected cell and a blank under every other column - nothing else, and nothing after -/
theorem caretRow_ascii (dps : List PR) (hw : WF dps) (l len : Nat) :
    caretRow dps false l (List.range len) =
      (List.range (min len (lastCol dps l))).map fun k => if (l, k + 1) ∈ cells dps then '^' else ' ' := by
  unfold caretRow
  apply List.filterMap_range_prefix
  · intro o ho
    -- the second test of `caretRow` holds (`ho`): `^` inside a position, a blank otherwise
    simp only [written_iff dps hw, ho, if_true, ← insideAt_iff_cell]
    cases insideAt dps l (o + 1) <;> rfl
  · intro o ho
    have hnw := mt (written_iff dps hw l o).mp (Nat.not_lt.mpr ho)
    simp only [Bool.or_eq_true, not_or, Bool.not_eq_true] at hnw
    simp [hnw.1, hnw.2]

/-- with the points disabled (a second diagnostic on the same columns) the row holds blanks only -/
theorem caretRow_disabled (dps : List PR) (l : Nat) (offs : List Nat) : ∀ c ∈ caretRow dps true l offs, c = ' ' := by
  simp only [caretRow, List.mem_filterMap, Bool.not_true, Bool.and_false, Bool.false_eq_true, if_false,
    Option.ite_none_right_eq_some, Option.some.injEq]
  rintro c ⟨o, -, -, rfl⟩
  rfl

/-- the test `caretRow` makes before it writes a `^` holds, for a diagnostic's column range [a, b], exactly at the
cells a..b of the value's positions (those of `readRange_exact`) -/
theorem carets_under_selected_columns (prs : List PR) (a b l c : Nat) :
    insideAt (readRange a b prs) l c = true ↔ (l, c) ∈ ((cells prs).drop (a - 1)).take (b - (a - 1)) := by
  rw [insideAt_iff_cell, cells_readRange]

example : caretRow [⟨1, 3, 5⟩, ⟨1, 8, 8⟩] false 1 (List.range 10) = "  ^^^  ^".toList := by
  rw [String.toList_ofList]  -- the literal's characters by the lemma: `String.toList` is dear to evaluate
  decide

end carets

end Pint.Props.C06
