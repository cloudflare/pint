/-
  C19 — relaxed mode finds the same rules as strict mode, wherever they are nested (tree level).

  The list walks of the model are `flatMap`s (`relaxedDocs_eq`, `relaxedFields_eq`, `relaxedGroups_eq`); what a group
  contributes is compared field by field (`rulesSeq_eq_strict`); siblings that contribute nothing drop out of a
  `flatMap` (`flatMap_middle`).
-/
import PintModel.Model.Yaml
namespace Pint.Props.C19
open Pint.Yaml

theorem eq_flatMap {α β : Type} {g : List α → List β} {f : α → List β} (h0 : g [] = [])
    (hc : ∀ x l, g (x :: l) = f x ++ g l) (l : List α) : g l = l.flatMap f := by
  induction l with
  | nil => exact h0
  | cons x rest ih => rw [hc, ih, List.flatMap_cons]

theorem relaxedDocs_eq (l : List Y) : relaxedDocs l = l.flatMap (relaxed none) :=
  eq_flatMap rfl (fun _ _ => rfl) l

theorem relaxedFields_eq (l : List (String × Y)) : relaxedFields l = l.flatMap fun f => relaxed (some f.1) f.2 :=
  eq_flatMap rfl (fun _ _ => rfl) l

theorem flatMap_congr_mem {α β} (l : List α) (f g : α → List β) (h : ∀ x ∈ l, f x = g x) : l.flatMap f = l.flatMap g :=
  congrArg List.flatten (List.map_congr_left h)

theorem flatMap_middle {α β} (f : α → List β) (pre post : List α) (x : α) (h1 : ∀ a ∈ pre, f a = [])
    (h2 : ∀ a ∈ post, f a = []) : (pre ++ x :: post).flatMap f = f x := by
  rw [List.flatMap_append, List.flatMap_cons, List.flatMap_eq_nil_iff.mpr h1, List.flatMap_eq_nil_iff.mpr h2,
    List.nil_append, List.append_nil]

theorem lastRules_cons (k : String) (v : Y) (rest : List (String × Y)) :
    lastRules ((k, v) :: rest) = (lastRules rest).or (if k = "rules" then (seqItems? v).map relaxedSeq else none) := by
  -- not `rfl`, even with the model's own `match` on the right: on a variable `v` the elaborator accepts it, the kernel does not
  cases v <;> rfl

theorem groupRulesSeq_cons (k : String) (v : Y) (rest : List (String × Y)) :
    groupRulesSeq ((k, v) :: rest) = (groupRulesSeq rest).or (if k = "rules" then seqItems? v else none) := by
  unfold groupRulesSeq
  simp only [List.reverse_cons, List.findSome?_append, List.findSome?_cons, List.findSome?_nil]
  cases (if k = "rules" then seqItems? v else none) <;> simp

theorem strictGroupRules_cons (k : String) (v : Y) (rest : List (String × Y)) :
    strictGroupRules ((k, v) :: rest) = (if k = "rules" then seqItems v else []) ++ strictGroupRules rest := rfl

theorem lastRules_eq (fields : List (String × Y)) : lastRules fields = (groupRulesSeq fields).map relaxedSeq := by
  induction fields with
  | nil => rfl
  | cons f rest ih =>
    rw [lastRules_cons, groupRulesSeq_cons, ih, Option.map_or]
    split <;> rfl

theorem groupContribution_mapping (i : Nat) (r : Bool) (fields : List (String × Y)) :
    groupContribution (.map i r fields) =
      if groupName fields ≠ "" then ((groupRulesSeq fields).map relaxedSeq).getD [] else [] := by
  simp only [groupContribution, groupRules]
  by_cases hn : groupName fields ≠ ""
  · rw [if_pos hn, if_pos hn]; cases groupRulesSeq fields <;> rfl
  · rw [if_neg hn, if_neg hn]

theorem relaxedGroups_cons (g : Y) (rest : List Y) :
    relaxedGroups (g :: rest) = groupContribution g ++ relaxedGroups rest := by
  cases g with
  | map i r fields =>
    show (if groupName fields ≠ "" then (lastRules fields).getD [] else []) ++ _ = _
    rw [groupContribution_mapping, lastRules_eq]
  | _ => rfl

theorem relaxedGroups_eq (l : List Y) : relaxedGroups l = l.flatMap groupContribution :=
  eq_flatMap rfl relaxedGroups_cons l

theorem nestedOf_all_keep (items : List Y) (h : ∀ x ∈ items, x.keeps = true) : nestedOf items = [] := by
  induction items with
  | nil => rfl
  | cons x rest ih =>
    obtain ⟨hx, hrest⟩ := List.forall_mem_cons.mp h
    show (if x.keeps then [] else relaxed none x) ++ nestedOf rest = []
    rw [if_pos hx, ih hrest]; rfl

theorem relaxedSeq_all_keep (items : List Y) (h : ∀ x ∈ items, x.keeps = true) : relaxedSeq items = items := by
  rw [relaxedSeq, nestedOf_all_keep items h, List.append_nil]
  exact List.filter_eq_self.2 h

theorem groupRulesSeq_eq_none {l : List (String × Y)} (h : ∀ f ∈ l, f.1 ≠ "rules") : groupRulesSeq l = none :=
  List.findSome?_eq_none_iff.mpr fun f hf => if_neg (h f (List.mem_reverse.mp hf))

theorem strictGroupRules_eq_nil {l : List (String × Y)} (h : ∀ f ∈ l, f.1 ≠ "rules") : strictGroupRules l = [] :=
  List.flatMap_eq_nil_iff.mpr fun f hf => if_neg (h f hf)

/-- with pairwise different keys the last `rules` key is the only one: if the two walks agree on its value (`hr`),
    they agree on the whole field list -/
theorem rulesSeq_eq_strict (fields : List (String × Y)) (hn : (fields.map (·.1)).Nodup)
    (hr : ∀ f ∈ fields, f.1 = "rules" → ((seqItems? f.2).map relaxedSeq).getD [] = seqItems f.2) :
    ((groupRulesSeq fields).map relaxedSeq).getD [] = strictGroupRules fields := by
  induction fields with
  | nil => rfl
  | cons f rest ih =>
    obtain ⟨k, v⟩ := f
    obtain ⟨hk, hn'⟩ := List.nodup_cons.mp hn
    obtain ⟨hv, hr'⟩ := List.forall_mem_cons.mp hr
    rw [groupRulesSeq_cons, strictGroupRules_cons]
    by_cases e : k = "rules"
    · have hrest : ∀ f ∈ rest, f.1 ≠ "rules" := fun f hf hfk => hk (List.mem_map.mpr ⟨f, hf, hfk.trans e.symm⟩)
      rw [groupRulesSeq_eq_none hrest, strictGroupRules_eq_nil hrest, if_pos e, if_pos e, Option.none_or, List.append_nil]
      exact hv e
    · rw [if_neg e, if_neg e, Option.or_none, List.nil_append]
      exact ih hn' hr'

/-- `tryParseGroup` reads the last `name`; if every `name` is a non-empty scalar, any one will do -/
theorem groupName_ne_empty (fields : List (String × Y)) (f : String × Y) (hf : f ∈ fields) (hk : f.1 = "name")
    (hnames : ∀ f ∈ fields, f.1 = "name" → ∃ i v, f.2 = .scalar i v ∧ v ≠ "") : groupName fields ≠ "" := by
  unfold groupName
  cases hfind : fields.reverse.find? (fun f => f.1 = "name") with
  | none => exact absurd (List.find?_eq_none.mp hfind f (List.mem_reverse.mpr hf)) (by simp [hk])
  | some g =>
    obtain ⟨gk, gv⟩ := g
    obtain ⟨i, v, rfl, hne⟩ := hnames (gk, gv) (List.mem_reverse.mp (List.mem_of_find?_eq_some hfind))
      (by simpa using List.find?_some hfind)
    exact hne

/-- one strict-valid group: the relaxed walk keeps exactly the rule nodes the strict walk parses -/
theorem group_eq (g : Y) (h : groupOK g = true) : groupContribution g = (match g with | .map _ _ gf => strictGroupRules gf | _ => []) := by
  cases g with
  | map i r fields =>
    simp only [groupOK, Bool.and_eq_true, List.all_eq_true, decide_eq_true_eq] at h
    obtain ⟨⟨⟨⟨-, hnodup⟩, hrules⟩, hname⟩, hnames⟩ := h
    -- the value of a `rules` key is a sequence of rules (or empty): both walks take its items
    have hA := rulesSeq_eq_strict fields hnodup fun ⟨k, v⟩ hf hk => by
      have := hrules _ hf
      rw [if_pos hk] at this
      cases v with
      | seq _ items => exact relaxedSeq_all_keep items (List.all_eq_true.mp this)
      | scalar _ _ => rfl
      | _ => cases this
    rw [groupContribution_mapping, hA]
    by_cases hn : groupName fields ≠ ""
    · exact if_pos hn
    · -- the relaxed walk skips a group without a name; a strict-valid one has no `rules` key then, since beside
      -- `rules` the strict walk asks for a `name`, and every `name` is a non-empty scalar
      rw [if_neg hn]
      refine (strictGroupRules_eq_nil fun f hf hk => hn ?_).symm
      have hc : (fields.map (·.1)).contains "rules" = true := List.elem_eq_true_of_mem (List.mem_map.mpr ⟨f, hf, hk⟩)
      rw [hc, if_pos rfl, List.any_eq_true] at hname
      obtain ⟨nf, hnf, hnk⟩ := hname
      refine groupName_ne_empty fields nf hnf (of_decide_eq_true ((Bool.and_eq_true _ _).mp hnk).1) fun ⟨k, v⟩ hf hk => ?_
      have := hnames _ hf
      rw [if_pos hk] at this
      cases v with
      | scalar _ _ => exact ⟨_, _, rfl, of_decide_eq_true this⟩
      | _ => cases this
  | _ => cases h

/-- C19 (first clause): for a file the strict walk accepts, the relaxed walk yields exactly the same
    rule nodes, in the same order. Any number of documents, groups and rules. -/
theorem relaxed_eq_strict (t : Y) (h : strictOK t = true) : relaxed none t = strictRules t := by
  cases t with
  | doc children =>
    simp only [strictOK, List.all_eq_true] at h
    simp only [relaxed, relaxedDocs_eq, strictRules]
    refine flatMap_congr_mem _ _ _ fun c hc => ?_
    have hcok := h c hc
    cases c with
    | map i r fields =>
      simp only [List.all_eq_true, Bool.and_eq_true, decide_eq_true_eq] at hcok
      simp only [relaxed, relaxedFields_eq]
      refine flatMap_congr_mem _ _ _ fun f hf => ?_
      obtain ⟨k, v⟩ := f
      obtain ⟨rfl, hv⟩ := hcok _ hf
      cases v with
      | seq j groups =>
        simp only [List.all_eq_true] at hv
        simp only [relaxed, if_true, relaxedGroups_eq]
        refine flatMap_congr_mem _ _ _ fun g hg => ?_
        rw [group_eq g (hv g hg)]
        cases g <;> rfl
      | _ => cases hv
    | _ => cases hcok
  | _ => cases h

/-- a wrapper around a hole: parent keys at any depth, each with sibling keys -/
inductive Ctx where
  | hole (key : String)     -- `fill` ignores `key`: the key above the rule list is the enclosing `field`'s, or the theorem's `pk`
  | field (id : Nat) (pre : List (String × Y)) (key : String) (inner : Ctx) (post : List (String × Y))
  deriving Repr

def Ctx.fill : Ctx → Y → Y
  | .hole _, t => t
  | .field i pre k inner post, t => .map i false (pre ++ (k, inner.fill t) :: post)

def Ctx.key : Ctx → String
  | .hole k => k
  | .field _ _ k _ _ => k

def Ctx.Quiet : Ctx → Prop
  | .hole k => k ≠ "groups"
  | .field _ pre k inner post =>
    k ≠ "groups" ∧ inner.Quiet ∧ (∀ f ∈ pre, relaxed (some f.1) f.2 = []) ∧ (∀ f ∈ post, relaxed (some f.1) f.2 = [])

theorem relaxed_seq_any_key (k : String) (hk : k ≠ "groups") (i : Nat) (items : List Y) :
    relaxed (some k) (.seq i items) = relaxedSeq items := by
  simp [relaxed, hk, relaxedSeq]

/-- C19 (second clause, tree level): wrapping a list of rules under parent keys at any depth (none of
    them `groups`) with siblings that hold no rules yields exactly the rule nodes of the bare list -/
theorem relaxed_wrap_invariant (c : Ctx) (hq : c.Quiet) (i : Nat) (items : List Y) (pk : String) :
    relaxed (some pk) (c.fill (.seq i items)) =
      (match c with | .hole _ => relaxed (some pk) (.seq i items) | _ => relaxedSeq items) := by
  induction c generalizing pk with
  | hole k => rfl
  | field j pre k inner post ih =>
    obtain ⟨hk, hin, hpre, hpost⟩ := hq
    show relaxedFields (pre ++ (k, inner.fill (.seq i items)) :: post) = relaxedSeq items
    rw [relaxedFields_eq, flatMap_middle _ pre post _ hpre hpost, ih hin k]
    cases inner with
    | hole k' => exact relaxed_seq_any_key k hk i items
    | field _ _ _ _ _ => rfl

/-- the whole file: extra documents that contain no rules do not matter either -/
theorem relaxed_docs_invariant (before after : List Y) (d : Y)
    (hb : ∀ x ∈ before, relaxed none x = []) (ha : ∀ x ∈ after, relaxed none x = []) :
    relaxed none (.doc (before ++ d :: after)) = relaxed none d := by
  show relaxedDocs (before ++ d :: after) = relaxed none d
  rw [relaxedDocs_eq, flatMap_middle _ before after d hb ha]

/-- non-vacuity: a strict-valid document with two groups (one without rules) -/
def demoDoc : Y := .doc [.map 1 false [("groups", .seq 2 [
  .map 3 false [("name", .scalar 4 "g1"), ("rules", .seq 5 [.map 6 true [], .map 7 true []])],
  .map 8 false [("name", .scalar 9 "g2"), ("interval", .scalar 10 "1m")]])]]

theorem demo : strictOK demoDoc = true ∧ (relaxed none demoDoc).map Y.id = [6, 7] := by decide

end Pint.Props.C19
