/-
  C08 — every check is switched on and off by the name it reports under.
  The table theorems are evaluated over the registration table regenerated from the source (`Gen/Checks.lean`); the
  filter theorem is unbounded in configurations, entries and instances.  No lemma ties an `Inst` to a row of the
  table: that the instances pint builds satisfy `Clean` (or the `hstr` of C07) is not proved.
-/
import PintModel.Lemmas.Enable
import PintModel.Gen.Checks
namespace Pint.Props.C08
open Pint.Enable Pint.Gen.Checks

/-- the table row of the Go check type that a registration constructs -/
def kindOf (typ : String) : Option Gen.Checks.Kind := kinds.find? (·.typ = typ)

/- Table theorems by `decide_cbv`, not `decide`, which unfolds every comparison of two strings to their UTF-8 bytes, in
   the elaborator and again in the kernel: call-by-value evaluation to a proof term (no compiled code) that rests on
   propext, Classical.choice and Quot.sound.  On a false table it may time out instead of reporting `false`, at the same
   theorem.  `problems_use_reporter` compares a literal with itself only; `decide` is the cheaper there. -/

/-- every registration (baseRules and every configurable block of parseRule) registers its check
    under the name its problems are reported with -/
theorem registered_eq_reporter :
    ∀ r ∈ registrations, (kindOf r.typ).map (·.reporter) = some r.name := by decide_cbv

/-- every `Problem{Reporter: X}` literal in a method of a check type has `X = c.Reporter()`; problems built elsewhere
    (`problemFromError`, `parseRuleError`) are in no row -/
theorem problems_use_reporter : ∀ k ∈ kinds, ∀ p ∈ k.problemReporters, p = "c.Reporter()" := by decide

/-- every reporter is a documented check name (the parse-error check reports under the error's own name) -/
theorem reporter_in_checkNames : ∀ k ∈ kinds, k.typ ≠ "ErrorCheck" → k.reporter ∈ checkNames := by decide_cbv

/-- the head of `String()` is the reporter name.  `stringHead` is what the extractor reads off the method (the value of
    the first `...CheckName` constant in its body); that the result begins with it is seen in the source only. -/
theorem string_has_name_prefix : ∀ k ∈ kinds, k.typ ≠ "ErrorCheck" → k.stringHead = k.reporter := by decide_cbv

/-- a check is marked online iff its name is in the documented OnlineChecks list -/
theorem online_iff_listed : ∀ k ∈ kinds, k.online = onlineChecks.contains k.reporter := by decide_cbv

theorem online_subset_names : ∀ n ∈ onlineChecks, n ∈ checkNames := by decide_cbv

theorem always_enabled_only_error : ∀ k ∈ kinds, k.alwaysEnabled = true ↔ k.typ = "ErrorCheck" := by decide_cbv

/-- N names instance i in one of the three accepted spellings, as `isEnabled` tests its `disabled` list -/
def hit (N : String) (i : Inst) : Bool := N = i.name || N = i.str || (tagged i.name i.tags).contains N

/-- when "disable N" is a pure filter: N names exactly the instances reporting under N (so N is a reporter name: a
    `String()` or `name(+tag)` that is N on an instance reporting under another name refutes `hit_iff`), equal
    `String()` means equal reporter (what `string_has_name_prefix` is for), no instance of N is unconditional, and no
    `rule { enable }`, matching or not, lists the name such an instance is registered under. -/
structure Clean (N : String) (rules : List CfgRule) (all : List Inst) : Prop where
  hit_iff : ∀ i ∈ all, hit N i = decide (i.reporter = N)
  str_inj : ∀ i ∈ all, ∀ j ∈ all, i.str = j.str → i.reporter = j.reporter
  not_always : ∀ i ∈ all, i.reporter = N → i.always = false
  not_enabled : ∀ i ∈ all, i.reporter = N → ∀ r ∈ rules, i.name ∉ r.enable

/-- C08 (disable): adding N to the disabled list removes exactly the checks reporting under N and
    leaves the selection of every other check unchanged, for every configuration, entry and command. -/
theorem disable_by_name_exact (re : Re) (cmd : String) (enabled d : List String) (rules : List CfgRule) (e : Entry)
    (N : String) (insts : List Inst) (hc : Clean N rules insts) :
    getChecks re cmd enabled (N :: d) rules e insts =
      (getChecks re cmd enabled d rules e insts).filter fun i => !decide (i.reporter = N) :=
  getChecks_filter (fun i => decide (i.reporter = N)) insts (fun _ _ => rfl)
    (fun i hi b => by
      -- `isEnabled` tests `hit N i`, which on these instances is the test of the reporter name
      have h : isEnabledBy enabled (N :: d) e i =
          (!(decide (i.reporter = N) && !i.always) && isEnabledBy enabled d e i) :=
        hc.hit_iff i hi ▸ isEnabledBy_disabled_cons enabled d N e i
      cases hd : decide (i.reporter = N) with
      | false => exact instEnabled_congr b rfl (fun _ _ => rfl) rfl (by rw [h, hd]; rfl)
      | true =>
        have hN : i.reporter = N := of_decide_eq_true hd
        exact instEnabled_of_disabled b (hc.not_enabled i hi hN) (by rw [h, hd, hc.not_always i hi hN]; rfl))
    (fun i hi j hj hs => by rw [hc.str_inj i hi j hj hs])

/-- `--offline` (`DisableOnlineChecks`) leaves in the disabled list what was there and the documented online names,
    nothing else.  About the list only: the step to `getChecks` is not taken. -/
theorem offline_eq_disable_online (disabled : List String) :
    ∀ n, n ∈ disableOnline onlineChecks disabled ↔ n ∈ disabled ∨ n ∈ onlineChecks :=
  fun _ => mem_disableOnline _ _

end Pint.Props.C08
