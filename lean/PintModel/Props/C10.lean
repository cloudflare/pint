/-
  C10 — text excluded by ignore comments cannot influence the result (reader level).
  The reader (`Model/Reader`) simulates the documented machine (`Spec/Exclude`), one lemma per class of line.
-/
import PintModel.Lemmas.Reader
import PintModel.Spec.Exclude

namespace Pint.Spec.Exclude
open Pint.Comments
section
variable {tsOk : List Char → Bool} {noCtl : Bool} {s : SState} {l l' : Line} {ls ls' : List Line}

/-! `SameOutside` line by line, with the next documented state (and the positions `k k'` of a line's own `#`) given:
    for a concrete pair of files every hypothesis is then one evaluation of `specStep` or `parseComment` on one line. -/

theorem SameOutside.visible (s' : SState) (h : specStep tsOk s l = (s', .visible))
    (rest : SameOutside tsOk noCtl s' ls ls') : SameOutside tsOk noCtl s (l :: ls) (l :: ls') :=
  .cons _ _ _ _ _ ⟨rfl, by rw [h]⟩ (by rw [h]; exact rest)

theorem SameOutside.excluded (s' : SState) (h : specStep tsOk s l = (s', .excluded))
    (h' : specStep tsOk s l' = (s', .excluded))
    (hn : noCtl = true → parseComment tsOk l = none ∧ parseComment tsOk l' = none)
    (rest : SameOutside tsOk noCtl s' ls ls') : SameOutside tsOk noCtl s (l :: ls) (l' :: ls') :=
  .cons _ _ _ _ _ ⟨h.trans h'.symm, by rw [h]; exact hn⟩ (by rw [h]; exact rest)

theorem SameOutside.own (s' : SState) (k k' : Nat) {t : Line}
    (hl : l.drop k = '#' :: t) (hl' : l'.drop k' = '#' :: t)
    (h : specStep tsOk s l = (s', .ownLine)) (h' : specStep tsOk s l' = (s', .ownLine))
    (ho : (parseComment tsOk l).map (·.offset) = some (byteLen (l.take k)))
    (ho' : (parseComment tsOk l').map (·.offset) = some (byteLen (l'.take k')))
    (rest : SameOutside tsOk noCtl s' ls ls') : SameOutside tsOk noCtl s (l :: ls) (l' :: ls') := by
  obtain ⟨c, hp, ho⟩ := Option.map_eq_some_iff.mp ho
  obtain ⟨c', hp', ho'⟩ := Option.map_eq_some_iff.mp ho'
  refine .cons _ _ _ _ _ ⟨h.trans h'.symm, ?_⟩ (by rw [h]; exact rest)
  rw [h]
  exact ⟨l.take k, l'.take k', t, c, c', by rw [← hl, List.take_append_drop], by rw [← hl', List.take_append_drop],
    hp, hp', ho, ho'⟩

end
end Pint.Spec.Exclude

namespace Pint.Props.C10
open Pint.Comments Pint.Reader Pint.Spec.Exclude

/-- what the rest of pint sees of a file: per line the (canonical) masked text, the forwarded
    file comments and the diagnostics -/
def readerOut (tsOk : List Char → Bool) (lastNL : Bool) (ls : List Line) : List COut :=
  (run tsOk lastNL ls).2.map canon

/-- FULL statement: files that agree outside excluded text (whatever the excluded text is,
    including text that looks like pint comments) give the same reader output. -/
def C10_statement : Prop :=
  ∀ (tsOk : List Char → Bool) (lastNL : Bool) (ls ls' : List Line),
    SameOutside tsOk false .normal ls ls' → readerOut tsOk lastNL ls = readerOut tsOk lastNL ls'

/-- The reader's flags for each documented state. Under `skipNext`, `autoReset` says whether it is cleared after one
    line (`.nextLine`) or stays until `ignore/end` (`.block`); in `.normal` `autoReset` is free: it is read only under
    `skipNext`, and what sets `skipNext` sets it too. Under `skipAll`, `inBegin` matters only on a line that carries a
    comment, and the excluded lines of `C10_partial` carry none. -/
def Abs : SState → RState → Prop
  | .normal, r => r.skipAll = false ∧ r.skipNext = false ∧ r.inBegin = false
  | .nextLine, r => r.skipAll = false ∧ r.skipNext = true ∧ r.autoReset = true ∧ r.inBegin = false
  | .block, r => r.skipAll = false ∧ r.skipNext = true ∧ r.autoReset = false ∧ r.inBegin = true
  | .file, r => r.skipAll = true

/-! Only `step_excluded` needs the restriction of `C10_partial`: a control comment on an excluded line does move the
    reader (`C10_not_full`). Each case (a state, a comment type) runs both machines: their definitions are in this
    section's `simp` set, and a `simp` call names only what the case adds. -/
section
variable {tsOk : List Char → Bool} {s : SState} {r : RState} (n : Nat) (nl : Bool) {l : Line}
attribute [local simp] specStep ctypeOf Abs stepLine stepCore skipOf

theorem step_excluded (ha : Abs s r) (hc : (specStep tsOk s l).2 = .excluded) (hp : parseComment tsOk l = none) :
    Abs (specStep tsOk s l).1 (stepLine tsOk r n nl l).1 ∧ canon (stepLine tsOk r n nl l).2 = ⟨[], [], []⟩ := by
  cases s <;> simp [hp] at ha hc ⊢ <;> simp [ha, canon, emptyLine_none, canonLine_spaces]

/-- a visible line is read as it would be at the start of a file -/
theorem step_visible (ha : Abs s r) (hc : (specStep tsOk s l).2 = .visible) :
    Abs (specStep tsOk s l).1 (stepLine tsOk r n nl l).1 ∧
    (stepLine tsOk r n nl l).2 = (stepLine tsOk {} n nl l).2 := by
  cases s with
  | file | nextLine => simp at hc
  | block =>
    obtain ⟨c, hp, hcc⟩ : ∃ c, parseComment tsOk l = some c ∧ c.ctype = .ignoreEnd :=
      Decidable.by_contra fun h => by simp [h] at hc
    simp at ha
    simp [hp, hcc, ha]
  | normal =>
    simp at ha
    cases hp : parseComment tsOk l with
    | none => simp [hp, ha]
    | some c => cases hcc : c.ctype <;> simp [hp, hcc] at hc <;> simp [hp, hcc, ha]

theorem step_own {p t : Line} {c : Comment} (ha : Abs s r) (hc : (specStep tsOk s (p ++ '#' :: t)).2 = .ownLine)
    (hp : parseComment tsOk (p ++ '#' :: t) = some c) (ho : c.offset = byteLen p) :
    Abs (specStep tsOk s (p ++ '#' :: t)).1 (stepLine tsOk r n nl (p ++ '#' :: t)).1 ∧
    canon (stepLine tsOk r n nl (p ++ '#' :: t)).2 =
      ⟨'#' :: t, [], if (specStep tsOk s (p ++ '#' :: t)).1 = .file then [n] else []⟩ := by
  cases s with
  | file | nextLine => simp at hc
  | block => simp only [specStep] at hc; split at hc <;> cases hc
  | normal =>
    simp at ha
    cases hcc : c.ctype <;> simp [hp, hcc] at hc <;>
      simp [hp, hcc, forwarded, ha, canon, emptyLine_own _ _ _ ho, canonLine_spaces_hash]

end

theorem step_rel {tsOk : List Char → Bool} {s : SState} {r r' : RState} (n : Nat) (nl : Bool) {l l' : Line}
    (ha : Abs s r) (ha' : Abs s r') (hrel : LineRel tsOk true s l l') :
    Abs (specStep tsOk s l).1 (stepLine tsOk r n nl l).1 ∧
    Abs (specStep tsOk s l').1 (stepLine tsOk r' n nl l').1 ∧
    canon (stepLine tsOk r n nl l).2 = canon (stepLine tsOk r' n nl l').2 := by
  obtain ⟨hspec, hcls⟩ := hrel
  cases hc : (specStep tsOk s l).2 <;> rw [hc] at hcls <;> have hc' := hspec ▸ hc
  · subst hcls
    have h := step_visible n nl ha hc
    have h' := step_visible n nl ha' hc
    exact ⟨h.1, h'.1, by rw [h.2, h'.2]⟩
  · obtain ⟨hp, hp'⟩ := hcls rfl
    have h := step_excluded n nl ha hc hp
    have h' := step_excluded n nl ha' hc' hp'
    exact ⟨h.1, h'.1, by rw [h.2, h'.2]⟩
  · obtain ⟨p, p', t, c, c', rfl, rfl, hp, hp', ho, ho'⟩ := hcls
    have h := step_own n nl ha hc hp ho
    have h' := step_own n nl ha' hc' hp' ho'
    exact ⟨h.1, h'.1, by rw [h.2, h'.2, hspec]⟩

theorem run_rel (tsOk : List Char → Bool) (lastNL : Bool) (s : SState) (ls ls' : List Line)
    (h : SameOutside tsOk true s ls ls') :
    ∀ (r r' : RState) (n : Nat), Abs s r → Abs s r' →
      (Reader.runFrom tsOk r n lastNL ls).2.map canon = (Reader.runFrom tsOk r' n lastNL ls').2.map canon := by
  induction h with
  | nil s => intro r r' n _ _; rfl
  | cons s l l' ls ls' hrel hrest ih =>
    intro r r' n ha ha'
    have hlen : ls.isEmpty = ls'.isEmpty := by cases hrest <;> rfl
    obtain ⟨h1, h2, h3⟩ := step_rel n (if ls.isEmpty then lastNL else true) ha ha' hrel
    simp only [Reader.runFrom, List.map_cons, ← hlen]
    rw [h3, ih _ _ (n + 1) h1 (hrel.1 ▸ h2)]

/-- C10 for payloads that carry no pint comment on wholly excluded lines: for every file pair, any number of lines,
    the four forms in any sequence (none inside another: that would be a pint comment on an excluded line). -/
theorem C10_partial (tsOk : List Char → Bool) (lastNL : Bool) (ls ls' : List Line)
    (h : SameOutside tsOk true .normal ls ls') :
    readerOut tsOk lastNL ls = readerOut tsOk lastNL ls' :=
  run_rel tsOk lastNL .normal ls ls' h {} {} 1 (by simp [Abs]) (by simp [Abs])

theorem mask_preserves_line_count (tsOk : List Char → Bool) (lastNL : Bool) (ls : List Line) :
    (run tsOk lastNL ls).2.length = ls.length :=
  length_runFrom tsOk {} 1 lastNL ls

/-! ### the full statement is false: concrete witnesses (model level; the same inputs are replayed on the real reader
    by the harness, see known_findings.json) -/

def noTs : List Char → Bool := fun _ => false

/-- `ignore/next-line` inside a begin/end block re-exposes the line after next -/
def witnessA : List Line := ["# pint ignore/begin", "# pint ignore/next-line", "x", "secret: 1", "# pint ignore/end"].map String.toList
def witnessB : List Line := ["# pint ignore/begin", "{% jinja %}", "x", "secret: 1", "# pint ignore/end"].map String.toList

/-- The literals become character lists by the lemma `String.toList_ofList` first: `String.toList` of a literal left
    to the kernel to evaluate (by `decide`, or by the simproc `String.reduceToList`) costs more than parsing the line.
    One theorem, so that the kernel parses each line once for both halves. -/
theorem witness : SameOutside noTs false .normal witnessA witnessB ∧
    readerOut noTs true witnessA ≠ readerOut noTs true witnessB := by
  simp only [witnessA, witnessB, List.map]
  repeat rw [String.toList_ofList]
  exact ⟨.visible .block (by decide) <| .excluded .block (by decide) (by decide) nofun <|
    .excluded .block (by decide) (by decide) nofun <| .excluded .block (by decide) (by decide) nofun <|
    .visible .normal (by decide) <| .nil _, by decide⟩

theorem C10_not_full : ¬ C10_statement := fun h => witness.2 (h noTs true witnessA witnessB witness.1)

/-- non-vacuity of `C10_partial`: a pair of files with a jinja payload in a block, a next-line
    payload and an ignore/line payload meets the hypothesis (and the payloads really differ). -/
def demoA : List Line := ["# pint ignore/begin", "{% a %}", "# pint ignore/end", "- record: x", "# pint ignore/next-line", "junk: [", "foo # pint ignore/line"].map String.toList
def demoB : List Line := ["# pint ignore/begin", "- alert: zzz", "# pint ignore/end", "- record: x", "# pint ignore/next-line", "}}}", "barbaz  # pint ignore/line"].map String.toList

theorem demo_same_outside : SameOutside noTs true .normal demoA demoB := by
  simp only [demoA, demoB, List.map]
  repeat rw [String.toList_ofList]
  exact .visible .block (by decide) <| .excluded .block (by decide) (by decide) (fun _ => by decide) <|
    .visible .normal (by decide) <| .visible .normal (by decide) <| .visible .nextLine (by decide) <|
    .excluded .normal (by decide) (by decide) (fun _ => by decide) <|
    .own .normal 4 8 rfl rfl (by decide) (by decide) (by decide) (by decide) <| .nil _

example : demoA ≠ demoB ∧ readerOut noTs true demoA = readerOut noTs true demoB := by
  refine ⟨?_, C10_partial noTs true demoA demoB demo_same_outside⟩
  simp only [demoA, demoB, List.map]
  repeat rw [String.toList_ofList]
  decide

end Pint.Props.C10
