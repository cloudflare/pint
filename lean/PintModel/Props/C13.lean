/-
  C13 — slicing a range query is invisible in its result (model of range.go / range_normalize.go: Model/Range.lean).
  `source_shape` ties the model to the Go source it was translated from.
-/
import PintModel.Props.C13.Runs
import PintModel.Gen.RangeSrc
namespace Pint.Props.C13
open Pint.Range Pint.Spec.Presence

/-- The grid on the right starts where the plan's first slice does, not at `start`: `sliceRange` rounds `start`
(`Time.Round`) and every slice is sampled from its own start, so that is the grid pint sees; where it lies relative to
`start` is not said.  `plan` always answers (`plan_terminates`) with a plan that is not empty (`plan_ok`): the default of
`headD` plays no part. -/
def C13_statement : Prop :=
  ∀ (start end_ lookback step : Int) (fp : Nat) (present : Int → Bool) (slices arrival : List TR),
    1 ≤ step → start ≤ end_ →
    plan start end_ lookback step = some slices → arrival.Perm slices →
    mergeSeries step (arrival.flatMap (sliceRanges step fp present)) =
      expandEnds step ((runs step (gridSamples present (slices.headD ⟨start, end_⟩).s end_ step)).map (mk fp))

/-- `Spec.Presence.runs`, the right side of the statement, on an ascending list (`Asc`, what `append_is_runs` asks): a gap of
two steps splits, one step does not -/
theorem runs_demo : runs 60 [0, 60, 120, 240, 300] = [(0, 120), (240, 300)] ∧ Asc (-1) [0, 60, 120, 240, 300] := by
  refine ⟨by decide, ?_⟩
  simp [Asc]

/-- **Slicing is invisible**, for any slice plan that tiles a grid (`SlicesOK`), not only pint's: in whatever order the
slice answers arrive, folding each into ranges, stretching the ends and merging gives exactly the ranges of ONE
evaluation over the whole grid. -/
theorem sliced_eq_unsliced (o step end_ : Int) (hs : 1 ≤ step) (fp : Nat) (present : Int → Bool)
    (slices arrival : List TR) (ok : SlicesOK o step end_ slices) (hp : arrival.Perm slices) :
    mergeSeries step (arrival.flatMap (sliceRanges step fp present)) = outRuns step fp (gridSamples present o end_ step) := by
  have hperm := List.Perm.flatMap_right (sliceRanges step fp present) hp
  rw [funext (sliceRanges_eq step hs fp present)] at hperm ⊢
  obtain ⟨_, _, wcov, wcanon⟩ := outRuns_facts o step hs fp _ (gs_ongrid present o o end_ step hs (by simp))
  have scov := fun sl (hsl : sl ∈ slices) =>
    (outRuns_facts o step hs fp _ (gs_ongrid present o sl.s sl.e step hs (ok.aligned sl hsl))).2.2.1
  have part := ok.mem_grid hs present
  refine merge_is_canonical step hs fp _ _ ((ok.fam hs fp present).perm hperm.symm) wcanon fun t => ?_
  rw [wcov t, covered_perm hperm t, covered_flatMap]
  constructor
  · rintro ⟨u, hu, hw⟩
    obtain ⟨sl, hsl, hu'⟩ := (part u).mp hu
    exact ⟨sl, hsl, (scov sl hsl t).mpr ⟨u, hu', hw⟩⟩
  · rintro ⟨sl, hsl, hc⟩
    obtain ⟨u, hu, hw⟩ := (scov sl hsl t).mp hc
    exact ⟨u, (part u).mpr ⟨sl, hsl, hu⟩, hw⟩

/-- **C13.** For every start ≤ end, lookback and step ≥ 1s, every presence pattern of a series and every arrival order of
the slice answers, the merged ranges are exactly the runs of one unsliced evaluation on the same grid. -/
theorem C13_holds : C13_statement := by
  intro start end_ lookback step fp present slices arrival hs hse hplan hperm
  have ok := plan_ok start end_ lookback step hs slices hplan
  exact sliced_eq_unsliced _ step end_ hs fp present slices arrival ok hperm

/-! ## the source skeleton the model was translated from

`Gen/RangeSrc` (written from /repo on every run by /verif/tools/extract/rangesrc.go) lists, for each of the five Go
functions `Model/Range.lean` translates by hand, in source order: the conditions of `if` and `for`, what a `range` runs
over, what is returned, the calls of `append` and `sort.Stable`, the assignments to `rstart` or to a `.Start` / `.End`;
of `RangeQuery`, the assignments to `queryStep` and to anything with "slice" in its name.  An edit of one of these
lines breaks `source_shape`.  Not listed, though the model follows them: the bounds a slice is created with, `break` /
`continue`, the assignments to `found` and `hadMerged`, and in `RangeQuery` the call of `MergeRanges` and the last
`sort.Stable`.  Listed, though `plan` has no use for them: `queryStep = lookback` (for the log) and `sliceKey := ..`
(the per-slice lock of C14). -/

def expected_overlaps : List String := ["if a.Fingerprint != b.Fingerprint", "return c, false", "if a.Start.Sub(b.Start).Abs() <= step && a.End.Sub(b.End).Abs() <= step", "if a.Start.Before(b.Start)", "c.Start = a.Start", "c.Start = b.Start", "if a.End.After(b.End)", "c.End = a.End", "c.End = b.End", "return c, true", "if a.Start.Before(b.Start) && a.End.After(b.Start) && a.End.Before(b.End)", "c.Start = a.Start", "c.End = b.End", "return c, true", "if a.Start.After(b.Start) && a.Start.Before(b.End) && a.End.After(b.End)", "c.Start = b.Start", "c.End = a.End", "return c, true", "if a.Start.Before(b.Start) && a.End.Before(b.End) && a.End.Sub(b.Start).Abs() <= step", "c.Start = a.Start", "c.End = b.End", "return c, true", "if a.Start.After(b.Start) && a.End.After(b.End) && a.Start.Sub(b.End).Abs() <= step", "c.Start = b.Start", "c.End = a.End", "return c, true", "if a.Start.Before(b.Start) && a.End.After(b.End)", "c.Start = a.Start", "c.End = a.End", "return c, true", "if a.Start.Sub(b.Start).Abs() <= step && a.End.After(b.End)", "if a.Start.Before(b.Start)", "c.Start = a.Start", "c.Start = b.Start", "c.End = a.End", "return c, true", "if a.Start.Before(b.Start) && a.End.Sub(b.End).Abs() <= step", "c.Start = a.Start", "if a.End.After(b.End)", "c.End = a.End", "c.End = b.End", "return c, true", "if a.Start.After(b.Start) && a.End.Before(b.End)", "c.Start = b.Start", "c.End = b.End", "return c, true", "return c, false"]
def expected_mergeRanges : List String := ["range source", "if _, ok = merged[src.Fingerprint]; !ok", "for i := 0; i < len(merged[src.Fingerprint]); i++", "if tr, ok = Overlaps(merged[src.Fingerprint][i], src, step); ok", "merged[src.Fingerprint][i].Start = tr.Start", "merged[src.Fingerprint][i].End = tr.End", "if !found", "append(merged[src.Fingerprint], src)", "if !hadMerged", "return source, false", "range merged", "for ; ok; ", "range merged", "range merged", "append(all, ranges...)", "sort.Stable(all)", "return all, hadMerged"]
def expected_expandRangesEnd : List String := ["range src", "src[i].End = src[i].End.Add(step - time.Second)"]
def expected_appendSampleToRanges : List String := ["range vals", "range dst", "if dst[i].Fingerprint != fp", "if !ts.Before(dst[i].Start.Add(step*-1)) && !ts.After(dst[i].Start)", "dst[i].Start = ts", "if !ts.Before(dst[i].Start) &&\n\t!ts.After(dst[i].End.Add(step))", "dst[i].End = ts", "if !found", "append(dst, MetricTimeRange{\n\tFingerprint:\tfp,\n\tLabels:\t\tls,\n\tStart:\t\tts,\n\tEnd:\t\tts,\n})", "return dst"]
def expected_sliceRange : List String := ["if end.Sub(start) <= resolution", "return []TimeRange{{Start: start, End: end}}", "rstart := start.Round(sliceSize)", "if rstart.After(start)", "if s.End.After(end)", "s.End = end", "append(slices, s)", "for ; rstart.Before(end); ", "if s.End.After(end)", "s.End = end", "append(slices, s)", "rstart = rstart.Add(sliceSize)", "range slices", "if i < len(slices)-1", "slices[i].End = slices[i].End.Add(time.Second * -1)", "return slices"]
def expected_rangeQuerySlicing : List String := ["queryStep := (time.Hour * 2).Round(step)", "if queryStep < step", "queryStep = step", "if queryStep > lookback", "queryStep = lookback", "slices = append(slices, TimeRange{Start: start, End: end})", "slices = sliceRange(start, end, step, queryStep)", "sliceKey := strconv.FormatUint(query.query.CacheKey(), 10)"]
theorem source_shape :
    Pint.Gen.RangeSrc.overlaps = expected_overlaps ∧
    Pint.Gen.RangeSrc.mergeRanges = expected_mergeRanges ∧
    Pint.Gen.RangeSrc.expandRangesEnd = expected_expandRangesEnd ∧
    Pint.Gen.RangeSrc.appendSampleToRanges = expected_appendSampleToRanges ∧
    Pint.Gen.RangeSrc.sliceRange = expected_sliceRange ∧
    Pint.Gen.RangeSrc.rangeQuerySlicing = expected_rangeQuerySlicing := by
  refine ⟨rfl, rfl, rfl, rfl, rfl, rfl⟩

end Pint.Props.C13
