/-
# C01 — a file pint passes in strict mode is loadable by Prometheus

`C01_statement`: for every document of the modelled domain, if pint's strict pipeline raises no Bug/Fatal problem then
`rulefmt.Parse` returns no error.  Both acceptors are models (`Model/Load.lean`), each compared with the real code on
the same bytes (`loadcheck`); the leaf validators (durations, PromQL, templates, name validity) are the real library
functions, run by the harness on the real scalars.
-/
import PintModel.Model.Load
namespace Pint.Props.C01
open Pint.Load

theorem pv_ne_val {s : SV} (h : pv s ≠ .val) : s ≠ .val := by
  revert h; cases s <;> decide

theorem pd_eq_invalid {d : DV} (h : pd d = .invalid) : d = .invalid ∨ d = .otherInvalid := by
  revert h; cases d <;> decide

theorem pd_eq_valid {d : DV} (h : pd d = .valid) : d ≠ .absent := by
  rintro rfl; cases h

theorem promMapBad_cases {m : MapV} (h : promMapBad m = true) :
    m.kind = .notMap ∨ (m.kind = .map ∧ m.collValue = true) ∨ (m.kind = .map ∧ m.dupKey = true) := by
  simpa [promMapBad, and_or_left] using h

theorem any_mono {α} {p q : α → Bool} (hpq : ∀ a, p a = true → q a = true) {l : List α}
    (h : l.any p = true) : l.any q = true :=
  let ⟨a, ha, hp⟩ := List.any_eq_true.mp h
  List.any_eq_true.mpr ⟨a, ha, hpq a hp⟩

theorem pintRule_record (r : RuleD) : pintRule r = true ∨ r.record = .absent ∨ r.record = .val := by
  cases h : r.record
  case absent | val => simp
  -- `r.record ==` any other value is a term of pint's chain
  all_goals exact .inl (by simp only [pintRule, beq_iff_eq.2 h, Bool.or_true, Bool.true_or])

theorem pintRule_alert (r : RuleD) : pintRule r = true ∨ r.alert = .absent ∨ r.alert = .val := by
  cases h : r.alert
  case absent | val => simp
  all_goals exact .inl (by simp only [pintRule, beq_iff_eq.2 h, Bool.or_true, Bool.true_or])

theorem pintRule_expr (r : RuleD) : pintRule r = true ∨ r.expr = .val := by
  cases h : r.expr
  case val => simp
  all_goals exact .inl (by simp only [pintRule, beq_iff_eq.2 h, Bool.or_true, Bool.true_or])

theorem pintRule_kind (r : RuleD) :
    pintRule r = true ∨ (r.record = .val ∧ r.alert = .absent) ∨ (r.record = .absent ∧ r.alert = .val) := by
  rcases pintRule_record r with h | hr | hr
  · exact .inl h
  all_goals rcases pintRule_alert r with h | ha | ha
  · exact .inl h
  · -- neither, both: terms of pint's chain; stated, they are found without rewriting all of it
    have hb : (r.record == .absent && r.alert == .absent) = true := by rw [hr, ha]; rfl
    exact .inl (by simp only [pintRule, hb, Bool.or_true, Bool.true_or])
  · exact .inr (.inr ⟨hr, ha⟩)
  · exact .inl h
  · exact .inr (.inl ⟨hr, ha⟩)
  · have hb : (r.record != .absent && r.alert != .absent) = true := by rw [hr, ha]; rfl
    exact .inl (by simp only [pintRule, hb, Bool.or_true, Bool.true_or])

theorem rule_sound (r : RuleD) (h : promRule r = true) : pintRule r = true := by
  simp only [promRule, Bool.and_eq_true, Bool.or_eq_true, Bool.not_eq_true', beq_iff_eq, bne_iff_ne, ne_eq] at h
  -- a rule pint passes is a recording or an alerting rule (`hk`) whose `expr` is a string (`he`)
  rcases pintRule_kind r with hp | hk
  · exact hp
  rcases pintRule_expr r with hp | he
  · exact hp
  -- on such a rule each reason of Prometheus (the bullets, in `promRule`'s order) is one of pint's (the goal, unfolded
  -- once) or cannot arise; `simp only` where it is literally at hand, `simp` (dearer) where constructors have to be
  -- told apart first
  simp only [pintRule, mapPresentMap, Bool.or_eq_true, Bool.and_eq_true, Bool.not_eq_true', beq_iff_eq, bne_iff_ne]
  rcases h.2 with (((((((((((h | h) | h) | h) | h) | h) | h) | h) | h) | h) | h) | h) | h
  · -- not a mapping, a key twice, an unknown key, a collection for a scalar: pint's tests too
    rcases h with ((((((h | h) | h) | h) | h) | h) | h) | h <;> simp only [h, true_or, or_true]
  · -- `for` is no duration: for pint `for` on a recording rule, the Bug of alerts/for, or a type error
    rcases pd_eq_invalid h with hf | hf
    · rcases hk with ⟨hr, ha⟩ | ⟨hr, ha⟩ <;> simp [hr, ha, hf]
    · simp only [hf, true_or, or_true]
  · -- `keep_firing_for` likewise
    rcases pd_eq_invalid h with hf | hf
    · rcases hk with ⟨hr, ha⟩ | ⟨hr, ha⟩ <;> simp [hr, ha, hf]
    · simp only [hf, true_or, or_true]
  · -- `labels`, `annotations`
    rcases promMapBad_cases h with hm | hm | hm <;> simp only [hm, true_or, or_true, and_self]
  · rcases promMapBad_cases h with hm | hm | hm <;> simp only [hm, true_or, or_true, and_self]
  · -- both of `record` and `alert`, or neither: excluded by `hk`
    rcases hk with ⟨hr, ha⟩ | ⟨hr, ha⟩ <;> simp [hr, ha, pv] at h
  · rcases hk with ⟨hr, ha⟩ | ⟨hr, ha⟩ <;> simp [hr, ha, pv] at h
  · -- no `expr`: excluded by `he`; one that does not parse: Fatal of promql/syntax
    simp [he, pv] at h
  · simp only [he, h.2, true_or, or_true, and_self]
  · -- a recording rule with annotations, `for`, `keep_firing_for`, or a bad name
    rcases hk with ⟨hr, ha⟩ | ⟨hr, ha⟩
    · rcases h.2 with (((h | h) | h) | h) | h
      · simp [hr, h.1]
      · simp [hr, pd_eq_valid h]
      · simp [hr, pd_eq_valid h]
      · simp only [hr, h, true_or, or_true, and_self]
      · simp only [hr, h, true_or, or_true, and_self]
    · simp [hr, pv] at h
  · -- a bad label name or value
    rcases h.2 with (hv | hv) | hv <;> simp only [h.1, hv, true_or, or_true, and_self]
  · -- a bad annotation name: pint tests it on alerting rules; a recording rule may have no annotations at all
    rcases hk with ⟨hr, ha⟩ | ⟨hr, ha⟩
    · simp [hr, h.1]
    · simp [ha, h.1, h.2]
  · -- a template that does not parse, in an alerting rule: Fatal of alerts/template
    rcases hk with ⟨hr, ha⟩ | ⟨hr, ha⟩
    · simp [ha, pv] at h
    · rcases h.2 with hv | hv <;> simp only [ha, hv.1, hv.2, true_or, or_true, and_self]

theorem groupOwn_sound (g : GroupD) (h : promGroupOwn g = true) : pintGroupOwn g = true := by
  simp only [promGroupOwn, Bool.or_eq_true, Bool.and_eq_true, Bool.not_eq_true', beq_iff_eq, bne_iff_ne, ne_eq] at h
  simp only [pintGroupOwn, mapPresentMap, Bool.or_eq_true, Bool.and_eq_true, Bool.not_eq_true', beq_iff_eq, bne_iff_ne]
  rcases h with (((((((((h | h) | h) | h) | h) | h) | h) | h) | h) | h) | h
  · -- not a mapping, an unknown key, a key twice
    rcases h with (h | h) | h <;> simp only [h, true_or, or_true]
  · -- no usable name
    simp [h]
  · simp [pv_ne_val h]
  · -- `interval`, `query_offset`
    rcases pd_eq_invalid h with hf | hf <;> simp [hf]
  · simp [h]
  · rcases pd_eq_invalid h with hf | hf <;> simp [hf]
  · simp [h]
  · -- `limit` not an integer
    simp [h]
  · -- `labels`
    rcases promMapBad_cases h with hm | hm | hm <;> simp [hm]
  · rcases h.2 with (hv | hv) | hv <;> simp only [h.1, hv, true_or, or_true, and_self]
  · -- `rules` not a sequence
    simp [h]

theorem group_sound (g : GroupD) (h : promGroup g = true) : pintGroup g = true := by
  simp only [promGroup, Bool.and_eq_true, Bool.or_eq_true] at h
  simp only [pintGroup, Bool.or_eq_true]
  rcases h.2 with h | h
  · exact .inl (groupOwn_sound g h)
  · cases hr : g.rules <;> rw [hr] at h
    case seq rs => exact .inr (any_mono rule_sound h)
    all_goals cases h

theorem doc_sound (d : Doc) (h : promRejects d = true) : pintBlocks d = true := by
  unfold promRejects at h
  unfold pintBlocks
  cases he : d.empty <;> simp only [he, if_true, Bool.false_eq_true, if_false, Bool.or_eq_true] at h ⊢
  -- pint's chain is Prometheus's with `multiDoc` put in before the groups
  rcases h with h | h
  · exact .inl (.inl h)
  · right
    cases hg : d.groups <;> simp only [hg, Bool.or_eq_true, Bool.false_eq_true] at h ⊢
    case seq gs => exact h.imp (any_mono group_sound) id

theorem C01_statement (d : Doc) (h : pintBlocks d = false) : promRejects d = false :=
  Bool.eq_false_iff.mpr fun hp => Bool.false_ne_true (h ▸ doc_sound d hp)

/-- the converse does not hold, on purpose: pint is stricter (a second YAML document, `limit: ~`, `for: ~`, ...) -/
example : ∃ d : Doc, pintBlocks d = true ∧ promRejects d = false :=
  ⟨{ empty := false, isMap := true, unknownKey := false, dupGroups := false, multiDoc := true, groups := .seq [] }, by decide⟩

def okRule : RuleD :=
  { isNull := false, isMap := true, record := .val, alert := .absent, expr := .val, recordValid := true, recordBraces := false, exprParses := true,
    for_ := .absent, keepFiring := .absent,
    labels := { kind := .absent, dupKey := false, collValue := false, badName := false, metricName := false, badValue := false, badTemplate := false, nonEmpty := false, otherValue := false },
    annotations := { kind := .absent, dupKey := false, collValue := false, badName := false, metricName := false, badValue := false, badTemplate := false, nonEmpty := false, otherValue := false },
    unknownKey := false, duplicateKey := false }
def okGroup : GroupD :=
  { isNull := false, isMap := true, name := .val, nameText := "g", interval := .valid, queryOffset := .absent, limit := .absent,
    labels := okRule.labels, rules := .seq [okRule], unknownKey := false, duplicateKey := false }
def okDoc : Doc := { empty := false, isMap := true, unknownKey := false, dupGroups := false, multiDoc := false, groups := .seq [okGroup] }
/-- non-vacuity: a well-formed document passes both -/
example : pintBlocks okDoc = false ∧ promRejects okDoc = false := by decide

/-- one fault each; Prometheus rejects them, so pint blocks them (`C01_statement`) -/
example : promRejects { okDoc with dupGroups := true } = true := by decide
example : promRejects { okDoc with groups := .seq [{ okGroup with name := .absent, rules := .absent }] } = true := by decide
example : promRejects { okDoc with groups := .seq [{ okGroup with rules := .seq [{ okRule with recordBraces := true }] }] } = true := by decide
example : promRejects { okDoc with groups := .seq [{ okGroup with labels := { okRule.labels with kind := .map, metricName := true, nonEmpty := true } }] } = true := by decide
example : promRejects { okDoc with groups := .seq [{ okGroup with rules := .seq [{ okRule with record := .null }] }] } = true := by decide

end Pint.Props.C01
