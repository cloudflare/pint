/-
# C12, joins: when `canJoin` says no, nothing is matched

The label that made `canJoin` say no is, under the data hypothesis, on every left series (the must-analysis,
`must_have`) and, by C04, on no right series: the matching signatures differ (`canJoin_false_no_match`,
`all_branches_rejected`).  Then the bookkeeping of "never matched" flags (`joinFlags`, `neverMatched`), up to the
general form of the report theorems (`report`).
-/
import PintModel.Props.C04
namespace Pint.Props.C12
open Pint.LabelFlow Pint.Props.C04

def sameNames (a b : LS) : Prop := ∀ n, n ∈ a ↔ n ∈ b

/-- what the analyser assumes about a left-hand series `a`: labels it says the source can have are there, as far as the
matching looks at them -/
def MustHave (on : Bool) (m : LS) (ls : Src) (a : LS) : Prop :=
  ∀ n, CanHave ls n → (if on then n ∈ m else n ∈ ls.guar ∧ n ∉ m ∧ n ≠ nameL) → n ∈ a

/-- **C12, join feasibility**: when `canJoin` fails, no left series (under `MustHave`) has the matching signature of
any right series the right source accounts for. -/
theorem canJoin_false_no_match (on : Bool) (m : LS) (ls rs : Src) (a b : LS)
    (hc : canJoin on m ls rs = false) (hl : MustHave on m ls a) (hr : Accounts rs b)
    (hname : on = false → nameL ∉ ls.guar) :
    ¬ sameNames (signature on m a) (signature on m b) := by
  intro hsame
  -- a label the matching looks at that the left source can have and the right one cannot
  obtain ⟨n, hrel, h1, h2⟩ := canJoin_eq_false.mp hc
  have h1 := (canHave_iff ls n).mp h1
  rw [← Bool.not_eq_true, canHave_iff] at h2
  -- it is in the signature of `a`, so in that of `b`
  refine h2 (hr n (mem_signature.mp ((hsame n).mp (mem_signature.mpr ?_))).1)
  cases on
  · have hne : n ≠ nameL := fun e => hname rfl (e ▸ hrel.1)
    exact ⟨hl n h1 ⟨hrel.1, hrel.2, hne⟩, hrel.2, hne⟩
  · exact ⟨hl n h1 hrel, hrel⟩

/-- `on()` with no labels never makes a join impossible -/
example (ls rs : Src) : canJoin true [] ls rs = true := by simp [canJoin]

/-- the premise `hc` can be met: `m1{job="x"}` against `sum by (instance) (m2)`, on `job` and on nothing -/
example :
    let l := selSrc [{ label := "job", kind := .eq }]
    let r := excludeMetricName (aggBySrc ["instance"] (selSrc [])) true ["instance"]
    canJoin true ["job"] l r = false ∧ canJoin false [] l r = false ∧ canJoin false ["job"] l r = true := by decide

/-- the data hypothesis gives `MustHave` for selector sources; for the whole of `frag12` it is `must_have` -/
theorem mustHave_selector (on : Bool) (m : LS) (ms : List Matcher) (U a : LS)
    (hfull : ∀ n ∈ U, n ∈ a) (hm : ∀ n ∈ m, n ∈ U) (hg : ∀ x ∈ ms, x.label ∈ U) :
    MustHave on m (selSrc ms) a := by
  intro n _ hcond
  cases on
  · obtain ⟨x, hx, rfl⟩ := mem_guar_selSrc hcond.1
    exact hfull _ (hg x hx)
  · exact hfull n (hm n hcond)

/-- The must-reading of sources against the series of `full`: a label of `U` a source can have is on every series.
Not asked of the metric name, which a function takes off the series while the source keeps it. -/
def Carried (U : LS) (S : List Src) (L : List LS) : Prop :=
  ∀ s ∈ S, ∀ ls ∈ L, ∀ n ∈ U, n ≠ nameL → canHave s n = true → n ∈ ls

section
variable {U : LS} {S : List Src} {L : List LS} {f : Src → Src}

theorem Carried.mapSrc (h : Carried U S L)
    (hf : ∀ s n, canHave (f s) n = canHave s n) : Carried U (S.map f) L := by
  simp only [Carried, List.forall_mem_map]
  exact fun s hs ls hls n hn hne hc => h s hs ls hls n hn hne ((hf s n).symm.trans hc)

theorem Carried.mapFilter {p : String → Bool} (h : Carried U S L)
    (hf : ∀ s n, canHave (f s) n = (p n && canHave s n)) : Carried U (S.map f) (L.map (List.filter p)) := by
  simp only [Carried, List.forall_mem_map]
  intro s hs ls hls n hn hne hc
  rw [hf, Bool.and_eq_true] at hc
  exact List.mem_filter.mpr ⟨h s hs ls hls n hn hne hc.2, hc.1⟩

theorem Carried.withOrWithoutName (h : Carried U S L) : Carried U S (withOrWithoutName L) := fun s hs =>
  forall_mem_withOrWithoutName.mpr ⟨h s hs, fun ls hls n hn hne hc => mem_dropName.mpr ⟨h s hs ls hls n hn hne hc, hne⟩⟩

end

theorem analyse_carried (U : LS) : ∀ (e : Expr), frag12 e = true → Carried U (analyse e) (full U e) := by
  intro e
  induction e with
  | sel ms =>
    intro _ s _ ls hls n hn _ _
    simp only [full] at hls
    split at hls
    · simp at hls
    · exact List.mem_singleton.mp hls ▸ List.mem_cons_of_mem _ hn
  | topk e ih => exact ih
  | withScalar e ih => exact fun hf => (ih hf).withOrWithoutName
  | func e ih => exact fun hf => ((ih hf).mapSrc canHave_reguarantee).withOrWithoutName
  | setAnd on m l r ihl _ => exact fun hf => (ihl hf).mapSrc fun s => canHave_ite_includeMatching on s m
  | aggBy g e ih => exact fun hf => (ih hf).mapFilter (canHave_aggBy g)
  | aggWithout g e ih => exact fun hf => (ih hf).mapFilter (canHave_aggWithout g)
  | binOn m l r ihl _ => exact fun hf => ((ihl hf).mapFilter (canHave_binOn m)).withOrWithoutName
  | binIgn m l r ihl _ => exact fun hf => ((ihl hf).mapFilter fun s => canHave_excludeLabel s m).withOrWithoutName
  | _ => exact fun hf => absurd hf Bool.false_ne_true

/-- **must-analysis**: under the data hypothesis what the single source "can have" (other than the metric name) is on
every returned series -/
theorem must_have (U : LS) : ∀ (e : Expr), frag12 e = true → ∀ s, analyse e = [s] → ∀ ls ∈ full U e,
    ∀ n ∈ U, n ≠ nameL → CanHave s n → n ∈ ls :=
  fun e hf s hs ls hls n hn hne hc =>
    analyse_carried U e hf s (hs ▸ List.mem_singleton_self s) ls hls n hn hne ((canHave_iff s n).mpr hc)

/-- `C12_on_all_branches_rejected` and `C12_ignoring_all_branches_rejected` in one: `hU` says that the labels `canJoin`
looks at (those of `m` under `on`, the guaranteed ones otherwise) are labels of `U` -/
theorem all_branches_rejected {U m : LS} {on : Bool} {e1 e2 : Expr} (hf1 : frag12 e1 = true)
    {s1 : Src} (h1 : analyse e1 = [s1])
    (hU : ∀ n, (if on then n ∈ m else n ∈ s1.guar) → n ∈ U ∧ n ≠ nameL)
    (hc : ∀ s2 ∈ analyse e2, canJoin on m s1 s2 = false) :
    ∀ a ∈ full U e1, ∀ b ∈ possible U e2, ¬ sameNames (signature on m a) (signature on m b) := by
  intro a ha b hb
  obtain ⟨s, hs, hacc⟩ := analyse_covers U e2 b hb
  refine canJoin_false_no_match on m s1 s a b (hc s hs) (fun n hcn hcond => ?_) hacc fun ho hn => ?_
  · have hn := hU n (by
      cases on
      · exact hcond.1
      · exact hcond)
    exact must_have U e1 hf1 s1 h1 a ha n hn.1 hn.2 hcn
  · subst ho
    exact (hU nameL hn).2 rfl

/-! The source `parseBinOps` hands to `canJoin` is the transformed one; the label that makes `canJoin` reject it makes it
reject the source of the left operand too. -/

theorem canJoin_binOn_transfer {m : LS} {s r : Src}
    (hc : canJoin true m (restrictTo { includeMatching s m with fixed := true } m) r = false) :
    canJoin true m s r = false :=
  canJoin_eq_false_mono (fun n h => (Bool.and_eq_true_iff.mp (canHave_binOn m s n ▸ h)).2) (fun h => nomatch h) hc

theorem canJoin_setOn_transfer {m : LS} {s r : Src}
    (hc : canJoin true m (includeMatching s m) r = false) : canJoin true m s r = false :=
  canJoin_eq_false_mono (fun n h => canHave_includeMatching s m n ▸ h) (fun h => nomatch h) hc

theorem canJoin_binIgn_transfer {m : LS} {s r : Src}
    (hc : canJoin false m (excludeLabel s m) r = false) : canJoin false m s r = false :=
  canJoin_eq_false_mono (fun n h => (Bool.and_eq_true_iff.mp (canHave_excludeLabel s m n ▸ h)).2)
    (fun _ _ hn => (mem_removeFrom.mp hn).1) hc

theorem neverMatched_length : ∀ e : Expr, (neverMatched e).length = (analyse e).length := by
  intro e
  induction e <;> simp [neverMatched, analyse, *]

theorem joinFlags_pos (on : Bool) (m : LS) (s : Src) : ∀ (rs : List Src) (cs : List Nat),
    cs.sum < joinFlags on m s rs cs → ∃ r ∈ rs, canJoin on m s r = false := by
  intro rs cs
  fun_induction joinFlags on m s rs cs with
  | case1 r rs c cs ih =>
    intro h
    simp only [List.sum_cons] at h
    by_cases hc : canJoin on m s r = true
    · obtain ⟨r', hr', hj⟩ := ih (by simp only [hc, if_true] at h; omega)
      exact ⟨r', List.mem_cons_of_mem _ hr', hj⟩
    · exact ⟨r, List.mem_cons_self, by simpa using hc⟩
  | case2 rs cs _ => exact fun h => absurd h (Nat.not_lt_zero _)

/-- with one source on the other side and nothing flagged below it, "a flag was raised here" is exactly "`canJoin` said
no" -/
theorem joinFlags_single (on : Bool) (m : LS) (s r : Src) :
    joinFlags on m s [r] [0] = if canJoin on m s r then 0 else 1 := by
  simp [joinFlags]

theorem joined_nil {U : LS} {on : Bool} {m : LS} {l r : Expr}
    (h : ∀ a ∈ full U l, ∀ b ∈ possible U r, ¬ sameNames (signature on m a) (signature on m b)) :
    joined U on m l r = [] := by
  simp only [joined, List.filter_eq_nil_iff, List.any_eq_true, not_exists, not_and]
  intro a ha b hb hs
  simp only [sigEq, Bool.and_eq_true, List.all_eq_true, List.contains_iff_mem] at hs
  exact h a ha b hb fun n => ⟨hs.1 n, hs.2 n⟩

/-- **the report, for any operation `top` that records its right operand as a join**: `f` is what `top` does to the
source of its left operand before it hands it to `canJoin`. -/
theorem report {U m : LS} {on : Bool} {l r : Expr} (top : Expr) {f : Src → Src} (ha : analyse top = (analyse l).map f)
    (hn : neverMatched top =
      List.zipWith (fun s c => c + joinFlags on m s (analyse r) (neverMatched r)) (analyse top) (neverMatched l))
    (hf : frag12 l = true) {s1 s2 : Src} (h1 : analyse l = [s1]) (h2 : analyse r = [s2])
    (hU : ∀ n, (if on then n ∈ m else n ∈ s1.guar) → n ∈ U ∧ n ≠ nameL)
    (htr : canJoin on m (f s1) s2 = false → canJoin on m s1 s2 = false)
    (hflag : (neverMatched l).sum + (neverMatched r).sum < (neverMatched top).sum) :
    joined U on m l r = [] := by
  obtain ⟨c, hc⟩ := List.length_eq_one_iff.mp ((neverMatched_length l).trans (congrArg List.length h1))
  -- with one left source the sum of the node is `c + joinFlags (f s1) ..`
  simp only [hn, ha, h1, hc, List.map, List.zipWith, List.sum_cons, List.sum_nil] at hflag
  obtain ⟨s, hs, hrej⟩ := joinFlags_pos on m (f s1) (analyse r) (neverMatched r) (by omega)
  rw [h2, List.mem_singleton] at hs
  exact joined_nil (all_branches_rejected hf h1 hU (h2 ▸ List.forall_mem_singleton.mpr (htr (hs ▸ hrej))))

/-- `flag_has_rejection` at a join node: a flag was there on the own side, or on the other side, or `canJoin` rejected a
pair here -/
theorem zipWith_flags_pos {on : Bool} {m : LS} {rs : List Src} {rc : List Nat} {ss : List Src} {cs : List Nat}
    (h : 0 < (List.zipWith (fun s c => c + joinFlags on m s rs rc) ss cs).sum) :
    0 < cs.sum ∨ 0 < rc.sum ∨ (ss.any fun s => rs.any fun x => !canJoin on m s x) = true := by
  obtain ⟨x, hx, hpos⟩ := List.sum_pos_iff_exists_pos_nat.mp h
  rw [← List.map_uncurry_zip_eq_zipWith] at hx
  obtain ⟨⟨s, c⟩, hsc, rfl⟩ := List.mem_map.mp hx
  obtain ⟨hs, hc⟩ := List.of_mem_zip hsc
  by_cases h0 : 0 < c
  · exact Or.inl (List.sum_pos_iff_exists_pos_nat.mpr ⟨c, hc, h0⟩)
  · by_cases h1 : 0 < rc.sum
    · exact Or.inr (Or.inl h1)
    · obtain ⟨r, hr, hrej⟩ := joinFlags_pos on m s rs rc (by simp only [Function.uncurry] at hpos; omega)
      exact Or.inr (Or.inr (List.any_eq_true.mpr ⟨s, hs, List.any_eq_true.mpr ⟨r, hr, by simp [hrej]⟩⟩))

end Pint.Props.C12
