/-
# C12, static comparison folding (`calculateStaticReturn`): the invariant

The number pint computes is the value the query returns whenever it returns one, and a query it declares dead returns
no sample (`sound`; in the words of the shapes of values: `agrees`).  A scalar is read as a vector that always has its
one sample (`sample`), so that the four ways scalars and vectors meet in a binary operation are one computation in
`Option`.
-/
import PintModel.Model.StaticFlow
namespace Pint.Props.C12
open Pint.StaticFlow

theorem fold_cmp_false (op : Op) (a b : Int) (d : Bool) (hc : op.isCmp = true) (hh : op.holds a b = false) : fold op a b d = (a, true) := by
  simp [fold, hc, hh]

theorem fold_eq (op : Op) (a b : Int) (d : Bool) :
    fold op a b d = (if op.isCmp then a else op.arith a b, d || op.isCmp && !op.holds a b) := by
  cases hc : op.isCmp <;> cases hh : op.holds a b <;> simp [fold, hc, hh]

theorem apply_false (op : Op) (a b keep : Int) :
    apply op false a b keep =
      if op.isCmp && !op.holds a b then none else some (if op.isCmp then keep else op.arith a b) := by
  cases hc : op.isCmp <;> cases hh : op.holds a b <;> simp [apply, hc, hh]

def isV : Val → Bool
  | .s _ => false
  | .v _ => true

def sample : Val → Option Int
  | .s k => some k
  | .v x => x

theorem eq_v_of_isV {u : Val} (h : isV u = true) : ∃ x, u = .v x := by
  cases u with
  | s k => cases h
  | v x => exact ⟨x, rfl⟩

/-- what the PromQL type checker promises -/
theorem isV_eval : ∀ e : SE, wellTyped e = true → isV (eval e) = isVec e := by
  intro e
  induction e with
  | num k => exact fun _ => rfl
  | sel => exact fun _ => rfl
  | vector e _ => intro _; rw [eval]; cases eval e <;> rfl
  | neg e ih =>
    intro ht
    rw [isVec, ← ih ht, eval]
    cases eval e <;> rfl
  | bin op b l r ihl ihr =>
    intro ht
    have ht := Bool.and_eq_true_iff.mp (Bool.and_eq_true_iff.mp ht).1
    rw [isVec, ← ihl ht.1, ← ihr ht.2, eval]
    cases eval l <;> cases eval r <;> try rfl
    simp only [evalBin]
    cases op.isCmp <;> rfl
  | fn keeps e ih | agg keeps e ih =>
    intro ht
    have ht := Bool.and_eq_true_iff.mp ht
    obtain ⟨x, hx⟩ := eq_v_of_isV ((ih ht.2).trans ht.1)
    rw [eval, hx]
    cases keeps <;> rfl
  | unlessOn l r ihl ihr =>
    intro ht
    obtain ⟨ht, htr⟩ := Bool.and_eq_true_iff.mp ht
    obtain ⟨hv, htl⟩ := Bool.and_eq_true_iff.mp ht
    obtain ⟨hvl, hvr⟩ := Bool.and_eq_true_iff.mp hv
    obtain ⟨x, hx⟩ := eq_v_of_isV ((ihl htl).trans hvl)
    obtain ⟨y, hy⟩ := eq_v_of_isV ((ihr htr).trans hvr)
    rw [eval, hx, hy]
    cases y <;> rfl

theorem eval_scalar {e : SE} (ht : wellTyped e = true) (hv : isVec e = false) : ∃ k, eval e = .s k := by
  have h := (isV_eval e ht).trans hv
  cases he : eval e with
  | s k => exact ⟨k, rfl⟩
  | v x => rw [he] at h; cases h

theorem eval_vec {e : SE} (ht : wellTyped e = true) (hv : isVec e = true) : ∃ x, eval e = .v x :=
  eq_v_of_isV ((isV_eval e ht).trans hv)

theorem sample_eval_vector (e : SE) : sample (eval (.vector e)) = sample (eval e) := by
  rw [eval]
  cases eval e <;> rfl

theorem sample_eval_neg (e : SE) : sample (eval (.neg e)) = (sample (eval e)).map (- ·) := by
  rw [eval]
  cases eval e <;> rfl

/-- `h` is what the type checker asks of an operation without `bool`; `keep` of `apply` is the sample of the vector
side, chosen as `side` chooses it -/
theorem sample_evalBin (op : Op) (u w : Val) (h : (isV u || isV w || !op.isCmp) = true) :
    sample (evalBin op false u w) =
      (sample u).bind fun a => (sample w).bind fun b => apply op false a b (if isV u then a else if isV w then b else a) := by
  cases u <;> cases w <;> try rfl
  have hc : op.isCmp = false := by simpa [isV] using h
  simp [evalBin, sample, apply, hc]

/-- the source that carries the result: the vector side, the left one when both or neither are vectors -/
def side (l r : SE) : St := if isVec l then static l else if isVec r then static r else static l

theorem side_eq (l r : SE) : side l r = static l ∨ side l r = static r := by
  unfold side
  split
  · exact Or.inl rfl
  · split
    · exact Or.inr rfl
    · exact Or.inl rfl

/-- `parseBinOps` without `on`: the four ways scalars and vectors meet differ in the side that carries the result only -/
theorem static_bin_eq (op : Op) (b : Bool) (l r : SE) :
    static (.bin op b l r) =
      if (static l).always && (static r).always && (static l).known && (static r).known then
        { side l r with
          num := if op.isCmp then (side l r).num else op.arith (static l).num (static r).num,
          dead := (static l).dead || op.isCmp && !op.holds (static l).num (static r).num,
          cond := (side l r).cond || op.isCmp }
      else { side l r with cond := (side l r).cond || op.isCmp } := by
  rw [static]
  simp only [fold_eq, side]
  cases op.isCmp <;> cases isVec l <;> cases isVec r <;> rfl

theorem static_neg_cond (e : SE) : (static (.neg e)).cond = (static e).cond := by
  simp only [static]
  split <;> rfl

theorem static_fn_cond (keeps : Bool) (e : SE) : (static (.fn keeps e)).cond = (static e).cond := by
  simp only [static]
  split <;> rfl

theorem static_bin_cond (op : Op) (b : Bool) (l r : SE) :
    (static (.bin op b l r)).cond = ((side l r).cond || op.isCmp) := by
  rw [static_bin_eq]
  split <;> rfl

/-- **what `!IsConditional` promises**, where no two vectors meet: a closed vector expression that no comparison guards
returns a sample, with or without `bool`; `AlwaysReturns` is not asked for -/
theorem vec_returns : ∀ e : SE, closed e = true → wellTyped e = true → noVV e = true →
    (static e).cond = false → isVec e = true → ∃ k, eval e = .v (some k) := by
  intro e
  induction e with
  | num k => exact fun _ _ _ _ hv => nomatch hv
  | sel => exact fun hc => nomatch hc
  | unlessOn l r _ _ => exact fun _ _ hn => nomatch hn
  | vector e _ =>
    intro _ ht _ _ _
    have ht := Bool.and_eq_true_iff.mp ht
    obtain ⟨k, hk⟩ := eval_scalar ht.2 (Bool.not_eq_true' _ ▸ ht.1)
    exact ⟨k, by rw [eval, hk]⟩
  | neg e ih =>
    intro hc ht hn hcond hv
    obtain ⟨k, hk⟩ := ih hc ht hn (static_neg_cond e ▸ hcond) hv
    exact ⟨-k, by rw [eval, hk]; rfl⟩
  | fn keeps e ih =>
    intro hc ht hn hcond _
    have ht := Bool.and_eq_true_iff.mp ht
    obtain ⟨k, hk⟩ := ih hc ht.2 hn (static_fn_cond keeps e ▸ hcond) ht.1
    cases keeps
    · exact ⟨Int.natAbs k, by simp [eval, hk]⟩
    · exact ⟨k, by simp [eval, hk]⟩
  | agg keeps e ih =>
    intro hc ht hn hcond _
    have ht := Bool.and_eq_true_iff.mp ht
    obtain ⟨k, hk⟩ := ih hc ht.2 hn hcond ht.1
    cases keeps
    · exact ⟨1, by simp [eval, hk]⟩
    · exact ⟨k, by simp [eval, hk]⟩
  | bin op b l r ihl ihr =>
    intro hc ht hn hcond hv
    simp only [closed, wellTyped, noVV, Bool.and_eq_true, Bool.not_eq_true'] at hc ht hn
    obtain ⟨⟨hvv, hnl⟩, hnr⟩ := hn
    rw [static_bin_cond, Bool.or_eq_false_iff] at hcond
    obtain ⟨hside, hcmp⟩ := hcond
    -- no comparison: the operation is arithmetic between the sample of the vector side and the scalar
    cases hvl : isVec l
    · have hvr : isVec r = true := by simpa [isVec, hvl] using hv
      obtain ⟨a, ha⟩ := eval_scalar ht.1.1 hvl
      obtain ⟨k, hk⟩ := ihr hc.2 ht.1.2 hnr (by simpa [side, hvl, hvr] using hside) hvr
      exact ⟨op.arith a k, by simp [eval, ha, hk, evalBin, apply, hcmp]⟩
    · have hvr : isVec r = false := by simpa [hvl] using hvv
      obtain ⟨k, hk⟩ := ihl hc.1 ht.1.1 hnl (by simpa [side, hvl] using hside) hvl
      obtain ⟨c, hc'⟩ := eval_scalar ht.1.2 hvr
      exact ⟨op.arith k c, by simp [eval, hk, hc', evalBin, apply, hcmp]⟩

theorem vec_nonEmpty : ∀ e : SE, closed e = true → boolFree e = true → wellTyped e = true → noVV e = true →
    (static e).cond = false → isVec e = true → ∃ k, eval e = .v (some k) :=
  fun e hc _ => vec_returns e hc

/-- `always` and `known` are part of the invariant because `static` folds a binary operation only when both hold on
both sides (`static_bin_eq`); on the expressions of `sound` they always do -/
def Sound (e : SE) : Prop :=
  (static e).always = true ∧ (static e).known = true ∧
  ∀ k, sample (eval e) = some k → k = (static e).num ∧ (static e).dead = false

theorem Sound.dead {e : SE} (h : Sound e) (hd : (static e).dead = true) : sample (eval e) = none :=
  Option.eq_none_iff_forall_ne_some.mpr fun k hk => Bool.false_ne_true ((h.2.2 k hk).2.symm.trans hd)

theorem sound_bin {op : Op} {l r : SE} (htl : wellTyped l = true) (htr : wellTyped r = true) (hl : Sound l)
    (hr : Sound r) (ht : (isVec l || isVec r || !op.isCmp) = true) : Sound (.bin op false l r) := by
  obtain ⟨la, lk, ln⟩ := hl
  obtain ⟨ra, rk, rn⟩ := hr
  have hs := sample_evalBin op (eval l) (eval r) (by rwa [isV_eval l htl, isV_eval r htr])
  rw [isV_eval l htl, isV_eval r htr] at hs
  rw [Sound, static_bin_eq, if_pos (by simp [la, lk, ra, rk]), eval, hs]
  have ha : (side l r).always = true := (side_eq l r).elim (· ▸ la) (· ▸ ra)
  have hkn : (side l r).known = true := (side_eq l r).elim (· ▸ lk) (· ▸ rk)
  refine ⟨ha, hkn, fun k hk => ?_⟩
  obtain ⟨a, hx, hk⟩ := Option.bind_eq_some_iff.mp hk
  obtain ⟨b, hy, hk⟩ := Option.bind_eq_some_iff.mp hk
  obtain ⟨rfl, hld⟩ := ln a hx
  obtain ⟨rfl, _⟩ := rn b hy
  rw [apply_false] at hk
  cases hcmp : (op.isCmp && !op.holds (static l).num (static r).num) <;> rw [hcmp] at hk
  · -- the comparison, if it is one, holds: the dead flag is the left side's
    refine ⟨(Option.some.inj hk).symm.trans ?_, by rw [hld]; rfl⟩
    -- and the sample it lets through is that of `side l r`
    rw [side, apply_ite St.num, apply_ite St.num]
  · cases hk

theorem sound : ∀ e : SE, closed e = true → boolFree e = true → wellTyped e = true → valueKeeping e = true →
    unlessSimple e = true → Sound e := by
  intro e
  induction e with
  | num k => exact fun _ _ _ _ _ => ⟨rfl, rfl, fun _ h => ⟨(Option.some.inj h).symm, rfl⟩⟩
  | sel => exact fun hc => nomatch hc
  | vector e ih =>
    intro hc hb ht hk hu
    obtain ⟨_, ek, en⟩ := ih hc hb (Bool.and_eq_true_iff.mp ht).2 hk hu
    exact ⟨rfl, ek, fun k h => ⟨by simpa [static, ek] using (en k (sample_eval_vector e ▸ h)).1, rfl⟩⟩
  | neg e ih =>
    intro hc hb ht hk hu
    obtain ⟨ea, ek, en⟩ := ih hc hb ht hk hu
    have hst : static (.neg e) = { static e with num := -(static e).num } := by simp [static, ek]
    rw [Sound, hst, sample_eval_neg]
    refine ⟨ea, ek, fun k h => ?_⟩
    obtain ⟨a, ha, rfl⟩ := Option.map_eq_some_iff.mp h
    exact ⟨congrArg (- ·) (en a ha).1, (en a ha).2⟩
  | fn keeps e ih | agg keeps e ih =>
    intro hc hb ht hk hu
    obtain ⟨rfl, hk⟩ := Bool.and_eq_true_iff.mp hk
    -- with `keeps = true` both `static` and `eval` pass through this node unchanged
    simpa [Sound, static, eval] using ih hc hb (Bool.and_eq_true_iff.mp ht).2 hk hu
  | unlessOn l r ihl ihr =>
    intro hc hb ht hk hu
    simp only [closed, boolFree, wellTyped, valueKeeping, unlessSimple, Bool.and_eq_true] at hc hb ht hk hu
    obtain ⟨⟨⟨hvl, hvr⟩, htl⟩, htr⟩ := ht
    obtain ⟨⟨hnr, hul⟩, _⟩ := hu
    obtain ⟨la, lk, ln⟩ := ihl hc.1 hb.1 htl hk.1 hul
    obtain ⟨x, hx⟩ := eval_vec htl hvl
    obtain ⟨y, hy⟩ := eval_vec htr hvr
    rw [Sound, static, eval, hx, hy]
    cases hrule : (static r).always && !(static r).cond
    · -- the `unless on()` rule does not fire: verdict and sample are the left side's
      refine ⟨la, lk, fun k h => ?_⟩
      cases y with
      | some _ => cases h
      | none => exact ln k (hx ▸ h)
    · -- it fires: the right side returns a sample, so nothing is left
      obtain ⟨k', hk'⟩ := vec_returns r hc.2 htr hnr ((Bool.not_eq_true' _).mp (Bool.and_eq_true_iff.mp hrule).2) hvr
      cases hy.symm.trans hk'
      exact ⟨la, lk, fun k h => nomatch h⟩
  | bin op b l r ihl ihr =>
    intro hc hb ht hk hu
    simp only [closed, boolFree, wellTyped, valueKeeping, unlessSimple, Bool.and_eq_true,
      Bool.not_eq_true'] at hc hb ht hk hu
    obtain ⟨⟨rfl, hbl⟩, hbr⟩ := hb
    exact sound_bin ht.1.1 ht.1.2 (ihl hc.1 hbl ht.1.1 hk.1 hu.1) (ihr hc.2 hbr ht.1.2 hk.2 hu.2)
      (by simpa using ht.2)

def Agrees (e : SE) : Prop :=
  (static e).always = true ∧ (static e).known = true ∧
  (isVec e = false → eval e = .s (static e).num ∧ (static e).dead = false) ∧
  (isVec e = true → ∃ x, eval e = .v x ∧ (∀ k, x = some k → k = (static e).num) ∧ ((static e).dead = true → x = none))

theorem agrees : ∀ e : SE, closed e = true → boolFree e = true → wellTyped e = true → valueKeeping e = true →
    unlessSimple e = true → Agrees e := by
  intro e hc hb ht hk hu
  have hs := sound e hc hb ht hk hu
  have ⟨ea, ek, en⟩ := hs
  refine ⟨ea, ek, fun hv => ?_, fun hv => ?_⟩
  · obtain ⟨k, he⟩ := eval_scalar ht hv
    rw [he] at en ⊢
    exact ⟨congrArg Val.s (en k rfl).1, (en k rfl).2⟩
  · obtain ⟨x, he⟩ := eval_vec ht hv
    have hd := hs.dead
    rw [he] at en hd
    exact ⟨x, he, fun k hx => (en k hx).1, hd⟩

end Pint.Props.C12
