/-
# C03 — `pint ci` classifies every rule's change state correctly for any branch history

Four theorems about the model of `git.Changes`, `matchEntries` and the end of `Find` (`Model/Git.lean`), with no bound
on the number of commits, files or rules: `match_states`, `fold_tracks_lineage`, `bodies_are_base_and_head`,
`mergeAll_spec`.  `old_matching_misclassifies_untouched`, `old_fold_loses_lineage`: the code before its fixes violates
the first two.

Not proved but run (correspondence `gitfold`, `c03wf`, `c03states` against real git and `pint ci`): the composition of
the four parts (`changeStates`, `headStates` of the model), git's own rename detection, the parsing of the two bodies
into entries (so that the hypotheses of `mergeAll_spec` hold), symlink handling.
-/
import PintModel.Props.C03.Matching
import PintModel.Props.C03.Bodies
import PintModel.Props.C03.Merge
namespace Pint.Props.C03
open Pint.Git

/-- **C03, matching**: with unique rule keys on both sides and non-empty names, the HEAD rules get, in order, exactly
the reference states. -/
theorem match_states (after before : List Ent) (hB : UniqueKeys before) (hA : UniqueKeys after)
    (hN : ∀ a ∈ after, a.name ≠ "") :
    (matchAfter before after).1.map stateOf = after.map (specState before) ∧
    (matchAfter before after).1.map (·.after) = after.map some := by
  rw [matchAfter_eq hB hA hN, List.map_map, List.map_map]
  exact ⟨List.map_congr_left fun a _ => stateOf_matchOf before a,
    List.map_congr_left fun a _ => by simp only [Function.comp, matchOf]; split <;> rfl⟩

/-- the matching before the `fix:` commit: a warning alert added above the existing critical alert of the same name
claims its base version by name, the untouched rule comes out `added`; the two-pass matching keeps it `noop` -/
theorem old_matching_misclassifies_untouched :
    let crit : Ent := { alert := true, name := "HostDown", content := 1, disabled := 0, path := "a.yml" }
    let warn : Ent := { alert := true, name := "HostDown", content := 2, disabled := 0, path := "a.yml" }
    (matchAfterOld [crit] [warn, crit]).1.map stateOf = [.modified, .added] ∧
    (matchAfter [crit] [warn, crit]).1.map stateOf = [.added, .noop] := by decide

theorem matchEntries_head (before after : List Ent) :
    (matchEntries before after).filterMap (fun m => m.after.map fun a => (a, stateOf m)) =
    (matchAfter before after).1.filterMap (fun m => m.after.map fun a => (a, stateOf m)) := by
  simp [matchEntries, List.filterMap_append, List.filterMap_map]

/-! non-vacuity and the documented precedence: renamed wins over modified -/
example :
    let b : Ent := { alert := true, name := "Down", content := 1, disabled := 0, path := "a.yml" }
    let a : Ent := { alert := true, name := "Down", content := 2, disabled := 0, path := "b.yml" }
    (matchEntries [b] [a]).map stateOf = [.moved] ∧ specState [b] a = .moved := by decide

example :
    let b1 : Ent := { alert := true, name := "Down", content := 1, disabled := 0, path := "a.yml" }
    let b2 : Ent := { alert := false, name := "x:y", content := 5, disabled := 0, path := "a.yml" }
    let a1 : Ent := { alert := true, name := "Down", content := 1, disabled := 0, path := "a.yml" }
    let a2 : Ent := { alert := false, name := "x:y", content := 6, disabled := 0, path := "a.yml" }
    let a3 : Ent := { alert := false, name := "new", content := 6, disabled := 0, path := "a.yml" }
    (matchEntries [b1, b2] [a2, a3, a1]).map stateOf = [.modified, .added, .noop] := by decide

/-- without unique names the matching is positional: two base rules of one name and no identical one leave the
HEAD rule `added` (and both base rules `removed`) -/
example :
    let b1 : Ent := { alert := true, name := "Down", content := 1, disabled := 0, path := "a.yml" }
    let b2 : Ent := { alert := true, name := "Down", content := 2, disabled := 0, path := "a.yml" }
    let a : Ent := { alert := true, name := "Down", content := 3, disabled := 0, path := "a.yml" }
    (matchEntries [b1, b2] [a]).map stateOf = [.added, .removed, .removed] := by decide

/-- **C03, lineage**: for every well-formed history of name-status records over any base tree, and every file `f` of
the resulting HEAD tree,
* if the branch touched `f`: the changes pint holds for `f`'s path are the change that carries the base path `f`
  descends from (through any chain of renames, deletions and re-creations) with every commit of that chain — it is the
  most recent one and the only one that is not a deletion — followed by the deletions of earlier files at that path;
* if the branch did not touch `f`: pint holds no change for its path at all (its rules stay `unmodified`) and its
  base path is its own. -/
theorem fold_tracks_lineage (paths : List String) (hN : paths.Nodup) (rs : List Rec) (hW : WF (baseTree paths) rs) :
    ∀ f ∈ (run (baseTree paths) rs).live,
      (touched f = true →
        (fold rs).filter (hasAfter f.path) = toChg f :: (deadAt (run (baseTree paths) rs) f.path).map toChg ∧
        (fold rs).find? (hasAfter f.path) = some (toChg f) ∧
        (fold rs).filter (fun c => hasAfter f.path c && c.st != .D) = [toChg f]) ∧
      (touched f = false → (fold rs).filter (hasAfter f.path) = [] ∧ f.origin = f.path) := by
  obtain ⟨hI, hT⟩ := fold_inv paths hN rs hW
  intro f hf
  have hI := hI f.path
  rw [liveAt_eq hT.uniq, find_of_mem atPath_clash hT.uniq hf (by simp [atPath])] at hI
  constructor
  · intro ht
    have hI' : (fold rs).filter (hasAfter f.path) = toChg f :: (deadAt (run (baseTree paths) rs) f.path).map toChg := by
      simpa [List.filter_cons, ht] using hI
    refine ⟨hI', by rw [← List.head?_filter, hI']; rfl, ?_⟩
    -- the live file is no deletion, the files below it are
    rw [filter_and, hI', List.filter_cons, if_pos (by simpa [toChg] using hT.liveND f hf), List.filter_eq_nil_iff.mpr]
    intro c hc
    obtain ⟨g, hg, rfl⟩ := List.mem_map.mp hc
    simp [toChg, hT.deadD g (List.mem_filter.mp hg).1]
  · intro ht
    have hfr := hT.fresh f hf ht
    exact ⟨by simpa [List.filter_cons, ht, hfr.2] using hI, hfr.1⟩

/-- deleted files: every deletion pint reports for a path is a file the branch deleted there, with its lineage -/
theorem fold_deletions (paths : List String) (hN : paths.Nodup) (rs : List Rec) (hW : WF (baseTree paths) rs) (p : String)
    (hfree : (run (baseTree paths) rs).live.any (atPath p) = false) :
    (fold rs).filter (hasAfter p) = (deadAt (run (baseTree paths) rs) p).map toChg := by
  have := (fold_inv paths hN rs hW).1 p
  rwa [liveAt_of_not_live hfree, List.nil_append] at this

/-- `wfB` is `WF` as a program: the driver op `c03wf` runs it on the records of real histories -/
theorem wfB_iff (t : Tree) (rs : List Rec) : wfB t rs = true ↔ WF t rs := by
  induction rs generalizing t with
  | nil => simp [wfB, WF]
  | cons r rs ih => simp [wfB, WF, ih]

/-! the code before the fix: delete `b`, rename `a` to `b`, edit `b` -/
def reuseHistory : List Rec :=
  [ { commit := 1, st := .D, src := "b", dst := "b" },
    { commit := 2, st := .R, src := "a", dst := "b" },
    { commit := 3, st := .M, src := "b", dst := "b" } ]

/-- the history is well formed, HEAD's `b` descends from `a` … -/
example : wfB (baseTree ["a", "b"]) reuseHistory = true ∧
    ((run (baseTree ["a", "b"]) reuseHistory).live.map fun f => (f.path, f.origin, f.commits)) = [("b", "a", [2, 3])] := by decide

/-- … the repaired fold compares `b` with `a` (and still reports the deletion of the old `b`) … -/
example : (fold reuseHistory).map (fun c => (c.before, c.after, c.commits)) = [("a", "b", [2, 3]), ("b", "b", [1])] := by decide

/-- … while the fold before the fix compared HEAD's `b` with the deleted `b` and lost the rename. -/
theorem old_fold_loses_lineage :
    (foldOld reuseHistory).map (fun c => (c.before, c.after, c.commits)) = [("b", "b", [1, 3])] := by decide

/-- the first two parts in one statement; the composition of the four is run, not proved (see the header) -/
theorem C03_partial (paths : List String) (hN : paths.Nodup) (rs : List Rec) (hW : WF (baseTree paths) rs)
    (before after : List Ent) (hB : UniqueKeys before) (hA : UniqueKeys after) (hNm : ∀ a ∈ after, a.name ≠ "") :
    (∀ f ∈ (run (baseTree paths) rs).live,
      (touched f = true → (fold rs).filter (fun c => hasAfter f.path c && c.st != .D) = [toChg f]) ∧
      (touched f = false → (fold rs).filter (hasAfter f.path) = [])) ∧
    (matchAfter before after).1.map stateOf = after.map (specState before) :=
  ⟨fun f hf => ⟨fun ht => ((fold_tracks_lineage paths hN rs hW f hf).1 ht).2.2,
                fun ht => ((fold_tracks_lineage paths hN rs hW f hf).2 ht).1⟩,
   (match_states after before hB hA hNm).1⟩

/-- the content of the paths as git would show them at each commit: a path's content only changes in a commit whose
name-status lists it -/
def Stable (rs : List Rec) (content : Nat → String → Option Nat) : Prop :=
  ∀ a b p, a ≤ b → (∀ r ∈ rs, a < r.commit → r.commit ≤ b → touches r p = false) → content a p = content b p

/-- **C03, bodies**: for every well-formed history in commit order (commits numbered from 1, HEAD = commit `N`), and
every file `f` of the HEAD tree that the branch touched, with `c = toChg f` the change pint holds for it:
the *after* body pint reads (`c.after` at the last commit of `c`) is the file's content at HEAD, and, when the file
descends from a base path, the *before* body (`c.before` at the parent of the first commit of `c`) is the base
content of that path (commit 0).  `content k p` stands for the body of `p` after commit `k` (an opaque id, `none` for
a missing file), where the pipeline of `Model/Git.lean` reads `fileAt (snapAt snaps k) p`; no lemma connects the two. -/
theorem bodies_are_base_and_head (paths : List String) (hN : paths.Nodup) (rs : List Rec) (hW : WF (baseTree paths) rs)
    (hS : SortedFrom 1 rs) (content : Nat → String → Option Nat) (hC : Stable rs content) (N : Nat)
    (hNmax : ∀ r ∈ rs, r.commit ≤ N) :
    ∀ f ∈ (run (baseTree paths) rs).live, touched f = true →
      content (lastOf (toChg f).commits) (toChg f).after = content N f.path ∧
      ((toChg f).before ≠ "" → content (firstOf (toChg f).commits - 1) (toChg f).before = content 0 f.origin) := by
  obtain ⟨K', hH, _, _⟩ :=
    hist_run rs [] (baseTree paths) [] 1 (base_inv paths hN).1 (base_inv paths hN).2 (base_hinv paths 1) hW hS
  rw [List.nil_append] at hH
  intro f hf ht
  have hne : f.commits ≠ [] := fun e => by simp [touched, e] at ht
  have hfm : f ∈ (run (baseTree paths) rs).live ++ (run (baseTree paths) rs).dead := List.mem_append_left _ hf
  constructor
  · -- nothing after the chain's last commit touches the path
    obtain ⟨r0, hr0, hr0c⟩ := hH.chainFrom f hfm _ (lastOf_mem hne)
    exact hC _ _ _ (hr0c ▸ hNmax r0 hr0) fun r hr hlt _ => Bool.eq_false_iff.mpr fun htr =>
      Nat.not_le.mpr hlt (hH.liveLast f hf r hr htr).2
  · -- nothing before the chain's first commit touches the base path
    intro hbefore
    refine (hC 0 (firstOf f.commits - 1) f.origin (Nat.zero_le _) fun r hr _ hle =>
      Bool.eq_false_iff.mpr fun htr => ?_).symm
    have h2 := (hH.origFirst f hfm hbefore r hr htr).2
    have := hS.le r hr
    omega

/-- the commit-order hypothesis of `bodies_are_base_and_head` holds of the history `reuseHistory` (written out) -/
example : SortedFrom 1 [ ({ commit := 1, st := .D, src := "b", dst := "b" } : Rec),
    { commit := 2, st := .R, src := "a", dst := "b" }, { commit := 3, st := .M, src := "b", dst := "b" } ] := by
  simp [SortedFrom]

/-- **C03, the final loop.** When the glob finder holds one entry per HEAD rule, every rule the branch did not remove
is among them and the branch lists no rule twice, the loop gives every glob entry the state the branch computed for the
same rule (and leaves the others as they were), and appends the removed rules. -/
theorem mergeAll_spec (G E : List GE) (ok : MergeOK G E) :
    mergeAll G E = G.map (stateFrom E) ++ E.filter (·.removed) := by
  have h0 : stateFrom [] = id := rfl
  simpa [h0, mergeAll] using mergeAll_from G ok.globDistinct E [] (by simpa using ok)

/-- the loop on a small example (for which `MergeOK` holds): two glob rules in `a.yml`, one modified on the branch, one
rule removed -/
example : mergeAll [⟨"a.yml", 1, 0, false⟩, ⟨"a.yml", 2, 0, false⟩] [⟨"a.yml", 2, 3, false⟩, ⟨"a.yml", 9, 4, true⟩] =
    [⟨"a.yml", 1, 0, false⟩, ⟨"a.yml", 2, 3, false⟩, ⟨"a.yml", 9, 4, true⟩] := by decide

end Pint.Props.C03
