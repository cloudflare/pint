/-
  C15 — failover happens on unavailability only, and outages degrade to warnings.
-/
import PintModel.Model.Failover
namespace Pint.Props.C15
open Pint.Failover

/-- only `v1.ErrServer` API errors count as unavailability, everything that is not an API error does; only
    `ErrAPIUnsupported` counts as unsupported; these five endpoints have a failover loop (what each stops on:
    `stops_iff`); the severity switch has the documented three arms -/
theorem classification_facts :
    Gen.Errors.unavailableType = "v1.ErrServer" ∧ Gen.Errors.unavailableDefault = "true" ∧
    Gen.Errors.unsupportedType = "ErrAPIUnsupported" ∧ Gen.Errors.unsupportedDefault = "false" ∧
    Gen.Errors.loops.map (·.1) = ["Query", "RangeQuery", "Config", "Flags", "Metadata"] ∧
    Gen.Errors.severityCases = [("promapi.IsQueryTooExpensive(err)", "Warning", ""),
      ("promapi.IsUnavailableError(err)", "Warning", "perrOk && perr.IsStrict() => Bug"), ("default", "s", "")] :=
  ⟨rfl, rfl, rfl, rfl, rfl, rfl⟩

/-- the regenerated switch of `decodeErrorType`: each case `string(v1.ErrX)` returns `v1.ErrX`, the default
    `ErrUnknown`. Source text only: no model definition reads it -/
theorem decode_table :
    Gen.Errors.decodeTable = [("string(v1.ErrBadData)", "v1.ErrBadData"), ("string(v1.ErrTimeout)", "v1.ErrTimeout"),
      ("string(v1.ErrCanceled)", "v1.ErrCanceled"), ("string(v1.ErrExec)", "v1.ErrExec"),
      ("string(v1.ErrBadResponse)", "v1.ErrBadResponse"), ("string(v1.ErrServer)", "v1.ErrServer"),
      ("string(v1.ErrClient)", "v1.ErrClient")] ∧ Gen.Errors.decodeDefault = "ErrUnknown" := ⟨rfl, rfl⟩

def endpoints : List String := ["Query", "RangeQuery", "Config", "Flags", "Metadata"]

/-- a loop moves on to the next upstream exactly on unavailability: the longer of the two loop conditions says no more
    than the shorter, because the sentinel `ErrUnsupported` counts as unavailable -/
theorem stops_iff (ep : String) (hep : ep ∈ endpoints) (o : Outcome) : stops ep o = !isUnavailable o := by
  have hl : ∀ ep ∈ endpoints, Gen.Errors.loops.lookup ep = some "!IsUnavailableError(err)" ∨
      Gen.Errors.loops.lookup ep = some "!IsUnavailableError(err) && !errors.Is(err, ErrUnsupported)" := by
    simp [endpoints, Gen.Errors.loops, List.lookup]
  have hu : isUnavailable .unsupported = true := by decide
  unfold stops
  rcases hl ep hep with h | h <;> simp only [h]
  cases o <;> simp [hu]

section
variable {ep : String} (hstop : ∀ o, stops ep o = !isUnavailable o) {o : Outcome} {rest : List Outcome} {i : Nat}
  {last : Option (Outcome × Nat)}
include hstop

theorem failover_cons_unavailable (ho : isUnavailable o = true) :
    failover ep (o :: rest) i last = failover ep rest (i + 1) (some (o, i)) := by
  cases o <;> simp [failover, hstop, ho] <;> simp [isUnavailable] at ho

theorem failover_cons_error (ho : isUnavailable o = false) (hnok : ∀ a, o ≠ .ok a) :
    failover ep (o :: rest) i last = ⟨none, some (o, i), i + 1⟩ := by
  cases o <;> simp [failover, hstop, ho] <;> exact absurd rfl (hnok _)

/-- `last'` is any value: the error remembered on the way is not looked at again while an upstream is left -/
theorem failover_skip (pre : List Outcome) (hpre : ∀ x ∈ pre, isUnavailable x = true)
    (last' : Option (Outcome × Nat)) :
    failover ep (pre ++ o :: rest) i last = failover ep (o :: rest) (i + pre.length) last' := by
  induction pre generalizing i last with
  | nil => cases o <;> rfl
  | cons x pre ih =>
    rw [List.cons_append, failover_cons_unavailable hstop (hpre x (by simp)),
      ih (fun y hy => hpre y (by simp [hy])), List.length_cons, Nat.add_right_comm, Nat.add_assoc]

theorem failover_all_unavailable (pre : List Outcome) (hpre : ∀ x ∈ pre, isUnavailable x = true)
    (ho : isUnavailable o = true) :
    failover ep (pre ++ [o]) i last = ⟨none, some (o, i + pre.length), i + pre.length + 1⟩ := by
  rw [failover_skip hstop pre hpre none, failover_cons_unavailable hstop ho, failover]

end

/-- a request is answered by the first upstream that is reachable: if all earlier upstreams were
    unavailable and upstream k answered, that answer is returned and nothing after k is contacted -/
theorem answered_by_first_available (ep : String) (hep : ep ∈ endpoints) (pre post : List Outcome) (a : Nat)
    (i : Nat) (last : Option (Outcome × Nat)) (hpre : ∀ o ∈ pre, isUnavailable o = true) :
    failover ep (pre ++ .ok a :: post) i last = ⟨some a, none, i + pre.length + 1⟩ := by
  rw [failover_skip (stops_iff ep hep) pre hpre none, failover]

/-- an error caused by the query itself (anything that is not unavailability) from upstream k is
    returned as is, carrying k's URI, and no later upstream is contacted -/
theorem query_error_returned_as_is (ep : String) (hep : ep ∈ endpoints) (pre post : List Outcome) (o : Outcome)
    (i : Nat) (last : Option (Outcome × Nat)) (hpre : ∀ x ∈ pre, isUnavailable x = true)
    (ho : isUnavailable o = false) (hnok : ∀ a, o ≠ .ok a) :
    failover ep (pre ++ o :: post) i last = ⟨none, some (o, i + pre.length), i + pre.length + 1⟩ := by
  rw [failover_skip (stops_iff ep hep) pre hpre none, failover_cons_error (stops_iff ep hep) ho hnok]

/-- when every upstream is unavailable all of them are contacted and the error returned is one of theirs, with the
    index of the last (`failover_all_unavailable`: it is the last one's) -/
theorem all_down (ep : String) (hep : ep ∈ endpoints) (os : List Outcome) (i : Nat) (last : Option (Outcome × Nat))
    (h : ∀ o ∈ os, isUnavailable o = true) (hne : os ≠ []) :
    ∃ o, o ∈ os ∧ failover ep os i last = ⟨none, some (o, i + os.length - 1), i + os.length⟩ := by
  rcases List.eq_nil_or_concat os with rfl | ⟨pre, x, rfl⟩
  · exact absurd rfl hne
  · rw [List.concat_eq_append] at h ⊢
    refine ⟨x, by simp, ?_⟩
    rw [failover_all_unavailable (stops_iff ep hep) pre (fun y hy => h y (by simp [hy])) (h x (by simp)),
      List.length_append]
    rfl

/-- an unavailability error (the sentinel `.unsupported` counts as one) is reported as a Warning (Bug when the server
    is `required`), never with the check's own severity -/
theorem outage_severity (o : Outcome) (strict : Bool) (own : Sev) (h : isUnavailable o = true) :
    problemSeverity false o strict own = if strict then .bug else .warning := by
  simp [problemSeverity, h]

theorem query_error_severity (o : Outcome) (strict : Bool) (own : Sev) (h : isUnavailable o = false) :
    problemSeverity false o strict own = own := by
  simp [problemSeverity, h]

/-- non-vacuity: refused, 5xx, then bad_data, then a healthy upstream that must not be reached -/
theorem demo :
    failover "Query" [.transport, .api "v1.ErrServer", .api "v1.ErrBadData", .ok 7] 0 none =
      ⟨none, some (.api "v1.ErrBadData", 2), 3⟩ ∧
    failover "Config" [.unsupported, .transport, .ok 5] 0 none = ⟨some 5, none, 3⟩ := by
  -- `+kernel`: the elaborator's own run of the string comparisons in `stops` costs twice the kernel's
  decide +kernel

end Pint.Props.C15
