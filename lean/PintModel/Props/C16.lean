/-
  C16 — promql/series verdicts agree with what the server actually holds.  The two clauses of the property over the
  modelled decision steps, for every combination of probe answers.  `present_now_never_missing`: a selector other than
  ALERTS whose instant probe succeeds and returns series gets no problem, whatever the later probes would say.
  `never_present_verdicts`: a base metric without any time range in the lookback window gets Information when a rule of
  the checked set records it, nothing when another server has it, Warning under ignoreMetrics, and the Bug otherwise
  (`never_present_is_bug`).

  `no_samples_no_ranges` / `samples_give_ranges`: the C13 model of `AppendSampleToRanges`, started on no ranges, ends with
  no range exactly when it is given no sample.  `Probe.baseRanges` is a free number: that it is the length of what
  slicing and merging return is not stated in Lean.  The probes themselves are the engine's and C13's; what the real
  check does with real probe answers is compared with `verdict` case by case (correspondence `seriesverdict`), and the
  property is run end to end against a fake Prometheus backed by the real PromQL engine.
-/
import PintModel.Model.Series
import PintModel.Model.Range
namespace Pint.Props.C16
open Pint.Series

theorem present_now_never_missing (p : Probe) (hi : p.isAlerts = false) (he : p.instantErr = false)
    (h : p.instantCount > 0) : verdict p = .none := by
  unfold verdict
  by_cases hd : (p.disabled || p.snoozed) = true
  · simp [hd]
  · simp [hd, hi, he, h]

theorem never_present_verdicts (p : Probe) (hd : p.disabled = false) (hs : p.snoozed = false) (ha : p.isAlerts = false)
    (he : p.instantErr = false) (hc : p.instantCount = 0) (hb : p.bareEmpty = false) (hbe : p.baseErr = false)
    (hr : p.baseRanges = 0) :
    verdict p = (if p.producer then .information else if !p.otherServers then .none else if p.ignored then .warning else .bug) := by
  simp [verdict, hd, hs, ha, he, hc, hb, hbe, hr]

/-- `otherServers = true` is the answer "report" of `checkOtherServer`: no other server has the series either -/
theorem never_present_is_bug (p : Probe) (hd : p.disabled = false) (hs : p.snoozed = false) (ha : p.isAlerts = false)
    (he : p.instantErr = false) (hc : p.instantCount = 0) (hb : p.bareEmpty = false) (hbe : p.baseErr = false)
    (hr : p.baseRanges = 0) (hp : p.producer = false) (ho : p.otherServers = true) (hi : p.ignored = false) :
    verdict p = .bug := by
  simp [never_present_verdicts p hd hs ha he hc hb hbe hr, hp, ho, hi]

def neverThere : Probe := { isAlerts := false, alertNamed := false, alertRuleStays := false, disabled := false, snoozed := false, instantErr := false, instantCount := 0, bareEmpty := false, baseErr := false, baseRanges := 0, producer := false, otherServers := true, ignored := false }
example : verdict neverThere = .bug := by decide
example : verdict { neverThere with instantCount := 3 } = .none := by decide

/-- step 0: an ALERTS selector is a problem exactly when an equality matcher names an alert that no rule of the checked
set will fire (a `!=` or regexp matcher names nothing; a rule that is being removed fires nothing) -/
theorem alerts_selector_verdict (p : Probe) (hd : p.disabled = false) (hs : p.snoozed = false) (ha : p.isAlerts = true) :
    (verdict p = .unknownAlert ↔ (p.alertNamed = true ∧ p.alertRuleStays = false)) ∧
    (verdict p ≠ .unknownAlert → verdict p = .none) := by
  unfold verdict
  cases hn : p.alertNamed <;> cases hr : p.alertRuleStays <;> simp [hd, hs, ha]

/-- a problem for a selector that is there now can only be an API error or the ALERTS rule -/
theorem problem_implies_absent_or_error (p : Probe) (h : verdict p ≠ .none) (hne : verdict p ≠ .error) (hna : verdict p ≠ .unknownAlert) :
    p.instantCount = 0 := by
  refine Decidable.by_contra fun hc => h ?_
  by_cases hx : (p.disabled || p.snoozed) = true
  · simp [verdict, hx]
  · obtain ⟨hd, hs⟩ : p.disabled = false ∧ p.snoozed = false := by simpa using hx
    cases ha : p.isAlerts
    · cases he : p.instantErr
      · exact present_now_never_missing p ha he (Nat.pos_of_ne_zero hc)
      · exact absurd (by simp [verdict, hd, hs, ha, he]) hne
    · exact (alerts_selector_verdict p hd hs ha).2 hna

example : verdict { (default : Probe) with isAlerts := true, alertNamed := true, alertRuleStays := false } = .unknownAlert := by decide
example : verdict { (default : Probe) with isAlerts := true, alertNamed := false } = .none := by decide

section
open Pint.Range

theorem appendSample_ne_nil (step : Int) (fp : Nat) (ts : Int) (l : List MTR) : appendSample step fp ts l ≠ [] := by
  fun_cases appendSample step fp ts l <;> simp

theorem appendSamples_eq_nil (step : Int) (fp : Nat) (l : List Int) (acc : List MTR) :
    appendSamples step fp l acc = [] ↔ l = [] ∧ acc = [] := by
  induction l generalizing acc with
  | nil => simp [appendSamples]
  | cons x xs ih => simpa [appendSamples, appendSample_ne_nil] using ih (appendSample step fp x acc)

theorem no_samples_no_ranges (step : Int) (fp : Nat) : appendSamples step fp [] [] = [] := rfl

theorem samples_give_ranges (step : Int) (fp : Nat) (t : Int) (ts : List Int) : appendSamples step fp (t :: ts) [] ≠ [] :=
  fun h => nomatch ((appendSamples_eq_nil ..).1 h).1

end

end Pint.Props.C16
