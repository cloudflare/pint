/-
  C20 — removing a rule that other rules depend on is reported, and only then.
-/
import PintModel.Model.Dependency
import PintModel.Gen.Checks
namespace Pint.Props.C20
open Pint.Dependency

/-- a remaining (not removed, error free) rule that selects what `r` produced -/
def Dependant (r : DEntry) (entries : List DEntry) (e : DEntry) : Prop :=
  e ∈ entries ∧ e.removed = false ∧ e.hasError = false ∧ uses r e = true

/-- a remaining rule of the same kind and name replaces `r` -/
def Replaced (r : DEntry) (entries : List DEntry) : Prop :=
  ∃ e ∈ entries, e.removed = false ∧ e.hasError = false ∧ e.kind = r.kind ∧ e.name = r.name

theorem mem_nonRemoved (es : List DEntry) (e : DEntry) :
    e ∈ nonRemoved es ↔ e ∈ es ∧ e.removed = false ∧ e.hasError = false := by
  simp [nonRemoved, List.mem_filter]

theorem mem_dedupKeys (l acc : List DKey) (k : DKey) : k ∈ dedupKeys l acc ↔ k ∈ acc ∨ k ∈ l := by
  fun_induction dedupKeys l acc with
  | case1 acc => simp
  | case2 x rest acc hx ih =>
    rw [ih, List.mem_cons]
    by_cases hk : k = x <;> simp [hk, List.contains_iff_mem.1 hx]
  | case3 x rest acc _ ih => simp [ih, or_assoc]

theorem nodup_dedupKeys (l acc : List DKey) (h : acc.Nodup) : (dedupKeys l acc).Nodup := by
  fun_induction dedupKeys l acc with
  | case1 acc => exact h
  | case2 x rest acc _ ih => exact ih h
  | case3 x rest acc hx ih => exact ih (List.nodup_append.2 ⟨h, by simp, fun a ha b hb e => hx (by simp_all)⟩)

theorem insertKey_perm (k : DKey) (l : List DKey) : (insertKey k l).Perm (k :: l) := by
  fun_induction insertKey k l with
  | case1 => exact .refl _
  | case2 x rest _ => exact .refl _
  | case3 x rest _ ih => exact (ih.cons x).trans (.swap k x rest)

theorem sortKeys_perm (l : List DKey) : (sortKeys l).Perm l := by
  induction l with
  | nil => exact .refl _
  | cons k rest ih => exact (insertKey_perm k _).trans (ih.cons k)

theorem mem_broken (r : DEntry) (entries : List DEntry) (k : DKey) :
    k ∈ broken r entries ↔ ∃ e, Dependant r entries e ∧ keyOf e = k := by
  simp [broken, mem_dedupKeys, mem_nonRemoved, Dependant, and_assoc]

theorem replaced_iff (r : DEntry) (entries : List DEntry) :
    ((nonRemoved entries).any fun e => e.kind = r.kind && e.name = r.name) = true ↔ Replaced r entries := by
  simp [Replaced, mem_nonRemoved, and_assoc]

theorem check_eq_some (r : DEntry) (entries : List DEntry) (ks : List DKey) :
    check r entries = some ks ↔
      r.isSymlink = false ∧ ¬ Replaced r entries ∧ broken r entries ≠ [] ∧ sortKeys (broken r entries) = ks := by
  unfold check
  rw [← replaced_iff]
  cases r.isSymlink <;> simp

/-- C20, decision: a rule/dependency problem is reported on a removed rule iff it is not a symlink,
    no remaining rule of the same kind and name replaces it, and some remaining error-free rule still
    selects the metric (or ALERTS{alertname="…"}) it produced -/
theorem C20_statement (r : DEntry) (entries : List DEntry) :
    (check r entries).isSome = true ↔
      r.isSymlink = false ∧ ¬ Replaced r entries ∧ ∃ e, Dependant r entries e := by
  simp [Option.isSome_iff_exists, check_eq_some, List.eq_nil_iff_forall_not_mem, mem_broken]

/-- C20, the list: it names exactly the dependent rules (by path, line of the expression, name) and is as long as
    `broken`, the list before sorting (`details_no_duplicates`) -/
theorem details_exactly_dependents (r : DEntry) (entries : List DEntry) (ks : List DKey)
    (h : check r entries = some ks) :
    (∀ k, k ∈ ks ↔ ∃ e, Dependant r entries e ∧ keyOf e = k) ∧ ks.length = (broken r entries).length := by
  obtain ⟨-, -, -, rfl⟩ := (check_eq_some r entries ks).1 h
  have hp := sortKeys_perm (broken r entries)
  exact ⟨fun k => hp.mem_iff.trans (mem_broken r entries k), hp.length_eq⟩

/-- each dependant is listed once: the list before sorting has no duplicates (and sorting permutes it) -/
theorem details_no_duplicates (r : DEntry) (entries : List DEntry) :
    (broken r entries).Nodup := nodup_dedupKeys _ [] .nil

/-- regenerated registration facts: `RuleDependencyCheck` runs on `Removed` entries only, is registered once (in
    `baseRules`), and no other check but `ErrorCheck` lists `Removed` -/
theorem only_removed_dispatched :
    (Gen.Checks.kinds.find? (·.typ = "RuleDependencyCheck")).map (·.states) = some ["Removed"] ∧
    (Gen.Checks.registrations.filter (·.typ = "RuleDependencyCheck")).map (·.site) = ["baseRules"] ∧
    ∀ k ∈ Gen.Checks.kinds, k.typ ≠ "RuleDependencyCheck" → k.typ ≠ "ErrorCheck" → "Removed" ∉ k.states := by
  -- `+kernel`: the elaborator's own run of the string comparisons costs twice the kernel's
  decide +kernel

/-- non-vacuity: a removed recording rule used by two remaining rules, one of them twice in one file -/
theorem demo :
    let r : DEntry := ⟨0, false, .recording, "job:up:sum", 0, true, false, false, 3, [⟨"up", [], []⟩]⟩
    let a : DEntry := ⟨1, false, .alerting, "Down", 1, false, false, false, 7, [⟨"job:up:sum", [], []⟩]⟩
    let b : DEntry := ⟨0, false, .recording, "x", 2, false, false, false, 9, [⟨"foo", [], []⟩, ⟨"", [], ["job:up:sum"]⟩]⟩
    let c : DEntry := ⟨0, false, .recording, "y", 3, true, false, false, 12, [⟨"job:up:sum", [], []⟩]⟩
    check r [r, a, b, c] = some [(0, 9, 2), (1, 7, 1)] := by
  decide

end Pint.Props.C20
