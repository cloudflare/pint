/-
C03: the history invariant `HInv` (how the commits of a file's chain lie among the records that touch its path and
its base path), kept by every applicable record of a history in commit order (`hist_run`, which carries `Inv` and `TInv`
along).  `bodies_are_base_and_head` in `Props/C03.lean` reads the two bodies off its fields `liveLast` and `origFirst`.
-/
import PintModel.Props.C03.Lineage
namespace Pint.Props.C03
open Pint.Git

def touches (r : Rec) (p : String) : Bool := r.src == p || r.dst == p
/-- `lastOf`, `firstOf`: the two commits `changeStates` reads bodies at.  There the default for the first one is 1, not
0; they agree on the chains of touched files, which are not empty, and the theorem speaks of no others. -/
def lastOf (cs : List Nat) : Nat := cs.getLast?.getD 0
def firstOf (cs : List Nat) : Nat := cs.head?.getD 0

/-- what the processed part of the history (`done`, latest commit `K`) says about every file of the tree -/
structure HInv (t : Tree) (done : List Rec) (K : Nat) : Prop where
  bounded : ∀ r ∈ done, r.commit ≤ K
  chainLe : ∀ f ∈ t.live ++ t.dead, ∀ c ∈ f.commits, c ≤ K
  chainFrom : ∀ f ∈ t.live ++ t.dead, ∀ c ∈ f.commits, ∃ r ∈ done, r.commit = c
  deadTouched : ∀ f ∈ t.dead, f.commits ≠ []
  /-- a record that touches the path of a live file is not later than the file's last commit -/
  liveLast : ∀ f ∈ t.live, ∀ r ∈ done, touches r f.path = true → f.commits ≠ [] ∧ r.commit ≤ lastOf f.commits
  /-- a record that touches the base path a file comes from is not earlier than the file's first commit -/
  origFirst : ∀ f ∈ t.live ++ t.dead, f.origin ≠ "" → ∀ r ∈ done, touches r f.origin = true →
    f.commits ≠ [] ∧ firstOf f.commits ≤ r.commit

theorem touches_eq_false {r : Rec} {p : String} (h1 : p ≠ r.src) (h2 : p ≠ r.dst) : touches r p = false := by
  simp [touches, Ne.symm h1, Ne.symm h2]

theorem lastOf_append (cs : List Nat) (c : Nat) : lastOf (cs ++ [c]) = c := by simp [lastOf]

theorem lastOf_mem {cs : List Nat} (h : cs ≠ []) : lastOf cs ∈ cs := by
  rw [lastOf, List.getLast?_eq_some_getLast h]; exact List.getLast_mem h

theorem firstOf_append (cs : List Nat) (c : Nat) : firstOf (cs ++ [c]) = if cs = [] then c else firstOf cs := by
  cases cs <;> simp [firstOf]

theorem firstOf_mem {cs : List Nat} (h : cs ≠ []) : firstOf cs ∈ cs := by
  cases cs with
  | nil => exact absurd rfl h
  | cons x xs => simp [firstOf]

/-- One statement for the three shapes of `applyRec`: `t'` is known only by its members, `old` is the file whose chain
the record continues or a file without history. -/
theorem hinv_step {t t' : Tree} {done : List Rec} {K : Nat} {r : Rec} (hH : HInv t done K) (hK : K ≤ r.commit)
    (hT' : TInv t') (st : St) {old : TFile} (hold : old ∈ t.live ++ t.dead ∨ old.commits = [] ∧ old.origin = "")
    (hlive : ∀ g ∈ t'.live, g = touch r.commit st r.dst old ∨ g ∈ t.live ∧ touches r g.path = false)
    (hdead : t'.dead ⊆ touch r.commit st r.dst old :: t.dead) :
    HInv t' (done ++ [r]) r.commit := by
  have hne : (touch r.commit st r.dst old).commits ≠ [] := by simp [touch]
  have hb : ∀ r' ∈ done ++ [r], r'.commit ≤ r.commit := List.forall_mem_append.mpr
    ⟨fun r' h => Nat.le_trans (hH.bounded r' h) hK, List.forall_mem_singleton.mpr (Nat.le_refl _)⟩
  have hmem : ∀ g ∈ t'.live ++ t'.dead, g = touch r.commit st r.dst old ∨ g ∈ t.live ++ t.dead :=
    List.forall_mem_append.mpr ⟨fun g h => (hlive g h).imp id fun h => List.mem_append_left _ h.1,
      fun g h => (List.mem_cons.mp (hdead h)).imp id (List.mem_append_right _)⟩
  have hdeadT : ∀ g ∈ t'.dead, g.commits ≠ [] := fun g hg => by
    rcases List.mem_cons.mp (hdead hg) with rfl | h
    · exact hne
    · exact hH.deadTouched g h
  have hfrom : ∀ g ∈ t'.live ++ t'.dead, ∀ c ∈ g.commits, ∃ r' ∈ done ++ [r], r'.commit = c := fun g hg c hc => by
    have lift : (∃ r' ∈ done, r'.commit = c) → ∃ r' ∈ done ++ [r], r'.commit = c :=
      fun ⟨r', h, e⟩ => ⟨r', List.mem_append_left _ h, e⟩
    rcases hmem g hg with rfl | h
    · rcases List.mem_append.mp hc with h | h
      · rcases hold with ho | ⟨ho, _⟩
        · exact lift (hH.chainFrom old ho c h)
        · simp [ho] at h
      · exact ⟨r, by simp, (List.mem_singleton.mp h).symm⟩
    · exact lift (hH.chainFrom g h c hc)
  have hle : ∀ g ∈ t'.live ++ t'.dead, ∀ c ∈ g.commits, c ≤ r.commit := fun g hg c hc => by
    obtain ⟨r', hr', rfl⟩ := hfrom g hg c hc
    exact hb r' hr'
  refine ⟨hb, hle, hfrom, hdeadT, fun g hg r' hr' ht => ?_, fun g hg hgo r' hr' ht => ?_⟩
  · rcases hlive g hg with rfl | ⟨hgl, hp⟩
    · exact ⟨hne, (lastOf_append old.commits r.commit).symm ▸ hb r' hr'⟩
    · rcases List.mem_append.mp hr' with h | h
      · exact hH.liveLast g hgl r' h ht
      · rw [List.mem_singleton.mp h, hp] at ht; cases ht
  · rcases List.mem_append.mp hr' with h' | h'
    · -- an earlier record: the chain starts where the chain of `old` started
      rcases hmem g hg with rfl | h
      · rcases hold with ho | ⟨_, ho⟩
        · have := hH.origFirst old ho hgo r' h' ht
          exact ⟨hne, ((firstOf_append old.commits r.commit).trans (if_neg this.1)).symm ▸ this.2⟩
        · exact absurd ho hgo
      · exact hH.origFirst g h hgo r' h' ht
    · rw [List.mem_singleton.mp h'] at ht ⊢
      by_cases hc : g.commits = []
      · -- an untouched file is live and sits at its base path: the record cannot touch it
        have hgl : g ∈ t'.live := (List.mem_append.mp hg).resolve_right fun hd => hdeadT g hd hc
        rw [(hT'.fresh g hgl (by simp [touched, hc])).1,
          ((hlive g hgl).resolve_left fun e => hne (e ▸ hc)).2] at ht
        cases ht
      · exact ⟨hc, hle g hg _ (firstOf_mem hc)⟩

theorem hist_move {cs : List Chg} {t : Tree} {done : List Rec} {K : Nat} (hT : TInv t) (hH : HInv t done K)
    {r : Rec} {f : TFile} (hf : t.live.find? (atPath r.src) = some f) (hK : K ≤ r.commit)
    (hdst : r.dst = r.src ∨ t.live.any (atPath r.dst) = false)
    (hT' : TInv { live := touch r.commit r.st r.dst f :: t.live.eraseP (atPath r.src), dead := t.dead }) :
    HInv { live := touch r.commit r.st r.dst f :: t.live.eraseP (atPath r.src), dead := t.dead } (done ++ [r]) r.commit :=
  hinv_step hH hK hT' r.st (.inl (List.mem_append_left _ (List.mem_of_find?_eq_some hf)))
    (fun g hg => (List.mem_cons.mp hg).imp id fun h =>
      ⟨List.eraseP_subset h, touches_eq_false (free_of_erase hT (.inl rfl) g h) (free_of_erase hT hdst g h)⟩)
    (List.subset_cons_self ..)

theorem hist_delete {t : Tree} {done : List Rec} {K : Nat} (hT : TInv t) (hH : HInv t done K)
    {r : Rec} {f : TFile} (hf : t.live.find? (atPath r.src) = some f) (hK : K ≤ r.commit) (hdst : r.dst = r.src)
    (hT' : TInv { live := t.live.eraseP (atPath r.src), dead := touch r.commit .D r.dst f :: t.dead }) :
    HInv { live := t.live.eraseP (atPath r.src), dead := touch r.commit .D r.dst f :: t.dead } (done ++ [r]) r.commit :=
  hinv_step hH hK hT' .D (.inl (List.mem_append_left _ (List.mem_of_find?_eq_some hf)))
    (fun g hg => .inr ⟨List.eraseP_subset hg,
      touches_eq_false (free_of_erase hT (.inl rfl) g hg) (free_of_erase hT (.inl hdst) g hg)⟩)
    (List.Subset.refl _)

theorem hist_add {t : Tree} {done : List Rec} {K : Nat} (hH : HInv t done K) {r : Rec} (hK : K ≤ r.commit)
    (hst : r.st = .A) (hfree : t.live.any (atPath r.dst) = false) (hsrc : r.src = r.dst)
    (hT' : TInv (applyRec t r)) : HInv (applyRec t r) (done ++ [r]) r.commit := by
  rw [applyRec_add hst] at hT' ⊢
  refine hinv_step hH hK hT' r.st ?_ (fun g hg => (List.mem_cons.mp hg).imp id fun h =>
      ⟨h, touches_eq_false (hsrc ▸ any_atPath_false hfree g h) (any_atPath_false hfree g h)⟩)
    (List.subset_cons_of_subset _ List.eraseP_subset)
  cases hd : t.dead.find? (atPath r.dst) with
  | some d => exact .inl (List.mem_append_right _ (List.mem_of_find?_eq_some hd))
  | none => exact .inr ⟨rfl, rfl⟩

theorem hist_step {cs : List Chg} {t : Tree} {done : List Rec} {K : Nat} (hI : Inv cs t) (hT : TInv t) (hH : HInv t done K)
    {r : Rec} (ha : applicable t r = true) (hK : K ≤ r.commit) :
    Inv (step cs r) (applyRec t r) ∧ TInv (applyRec t r) ∧ HInv (applyRec t r) (done ++ [r]) r.commit := by
  obtain ⟨hI', hT'⟩ := step_preserves hI hT ha
  refine ⟨hI', hT', ?_⟩
  rcases applicable_cases ha with ⟨hst, hfree, hsrc, _⟩ | ⟨f, hf, hdst, ⟨_, hd, happ⟩ | ⟨_, happ⟩⟩
  · exact hist_add hH hK hst hfree hsrc hT'
  · rw [happ] at hT' ⊢; exact hist_delete hT hH hf hK hd hT'
  · rw [happ] at hT' ⊢; exact hist_move (cs := cs) hT hH hf hK hdst hT'

/-- commits do not decrease along the record list (git log --reverse) -/
def SortedFrom : Nat → List Rec → Prop
  | _, [] => True
  | K, r :: rs => K ≤ r.commit ∧ SortedFrom r.commit rs

theorem SortedFrom.le {rs : List Rec} {K : Nat} (h : SortedFrom K rs) : ∀ r ∈ rs, K ≤ r.commit := by
  fun_induction SortedFrom K rs with
  | case1 => exact fun _ h => nomatch h
  | case2 K x xs ih => exact List.forall_mem_cons.mpr ⟨h.1, fun r hr => Nat.le_trans h.1 (ih h.2 r hr)⟩

theorem hist_run : ∀ (rs : List Rec) (cs : List Chg) (t : Tree) (done : List Rec) (K : Nat),
    Inv cs t → TInv t → HInv t done K → WF t rs → SortedFrom K rs →
    ∃ K', HInv (run t rs) (done ++ rs) K' ∧ TInv (run t rs) ∧ Inv (rs.foldl step cs) (run t rs)
  | [], cs, t, done, K, hI, hT, hH, _, _ => ⟨K, by simpa [run] using hH, hT, hI⟩
  | r :: rs, cs, t, done, K, hI, hT, hH, hW, hS => by
    obtain ⟨hI', hT', hH'⟩ := hist_step hI hT hH hW.1 hS.1
    obtain ⟨K', h1, h2, h3⟩ := hist_run rs (step cs r) (applyRec t r) (done ++ [r]) r.commit hI' hT' hH' hW.2 hS.2
    exact ⟨K', by simpa [run, List.append_assoc] using h1, h2, h3⟩

theorem base_hinv (paths : List String) (K : Nat) : HInv (baseTree paths) [] K := by
  have hempty : ∀ f ∈ (baseTree paths).live ++ (baseTree paths).dead, f.commits = [] := by
    intro f hf
    simp only [baseTree, List.append_nil, List.mem_map] at hf
    obtain ⟨p, _, rfl⟩ := hf
    rfl
  refine ⟨by simp, ?_, ?_, by simp [baseTree], by simp, by simp⟩
  · intro f hf c hc; rw [hempty f hf] at hc; simp at hc
  · intro f hf c hc; rw [hempty f hf] at hc; simp at hc

end Pint.Props.C03
