/-
C03: with rule names unique per type on both sides, the two passes of `matchEntries` give every HEAD rule the base
rule of its type and name (`matchAfter_eq`).  Only the HEAD rules are followed: the base rules left over after both
passes (`(matchAfter ..).2`, the `removed` entries of `matchEntries`) have no statement.
-/
import PintModel.Lemmas.Git
namespace Pint.Props.C03
open Pint.Git

def UniqueKeys (l : List Ent) : Prop := l.Pairwise fun x y => sameKey x y = false

theorem takeIdentical_unique {bs : List Ent} (hU : UniqueKeys bs) {a : Ent} (hn : a.name ≠ "") :
    takeIdentical a bs = (bs.find? (identical a), bs.filter fun b => !identical a b) := by
  have hp : (fun b => a.name != "" && identical a b) = identical a := funext fun b => by simp [hn]
  rw [takeIdentical_eq, hp, eraseP_eq_filter (identical_clash a) hU]

/-- the first loop of `matchEntries` read by key; a statement of its own, `match_states` goes through
`takeIdentical_unique` -/
theorem takeIdentical_spec (a : Ent) (hn : a.name ≠ "") :
    ∀ bs : List Ent, UniqueKeys bs →
      match bs.find? (sameKey a) with
      | some b => (identical a b = true → takeIdentical a bs = (some b, bs.filter fun x => !sameKey a x)) ∧
                  (identical a b = false → takeIdentical a bs = (none, bs))
      | none => takeIdentical a bs = (none, bs) := by
  intro bs hU
  rw [takeIdentical_unique hU hn]
  cases hf : bs.find? (sameKey a) with
  | none =>
    have hno : ∀ x ∈ bs, identical a x = false := fun x hx => by
      simp [identical_eq, List.find?_eq_none.mp hf x hx]
    exact Prod.ext (List.find?_eq_none.mpr fun x hx => by simp [hno x hx])
      (List.filter_eq_self.mpr fun x hx => by simp [hno x hx])
  | some b =>
    -- `b` is the only entry with the key of `a`
    have key : ∀ x ∈ bs, identical a x = (sameKey a x && identical a b) := fun x hx => by
      cases hx' : sameKey a x with
      | false => simp [identical_eq, hx']
      | true => rw [Option.some.inj ((find_of_mem (sameKey_clash a) hU hx hx').symm.trans hf), Bool.true_and]
    rw [List.filter_congr fun x hx => congrArg (!·) (key x hx)]
    refine ⟨fun h => ?_, fun h => ?_⟩
    · rw [find_of_mem (identical_clash a) hU (List.mem_of_find?_eq_some hf) h]; simp [h]
    · rw [List.find?_eq_none.mpr fun x hx => by simp [key x hx, h]]; simp [h]

def claimed (b a : Ent) (same : Bool) : Matched :=
  { before := some b, after := some a, isIdentical := same, wasMoved := a.path != b.path }

def unmatched (a : Ent) : Matched := { before := none, after := some a, isIdentical := false, wasMoved := false }

/-- what the first pass makes of the HEAD rule `a`, read off the whole base list: earlier rules took nothing `a` could
claim (`pass1_eq`) -/
def pass1Of (before : List Ent) (a : Ent) : Matched :=
  match before.find? (identical a) with
  | some b => claimed b a (b.disabled == a.disabled)
  | none => unmatched a

/-- what both passes make of it (`matchAfter_eq`) -/
def matchOf (before : List Ent) (a : Ent) : Matched :=
  match before.find? (sameKey a) with
  | some b => claimed b a (identical a b && b.disabled == a.disabled)
  | none => unmatched a

theorem pass1One_eq {cur : List Ent} (hU : UniqueKeys cur) {a : Ent} (hn : a.name ≠ "") :
    pass1One cur a = (pass1Of cur a, cur.filter fun b => !identical a b) := by
  rw [pass1One, takeIdentical_unique hU hn, pass1Of]
  cases cur.find? (identical a) <;> rfl

theorem pass1_eq : ∀ (as cur : List Ent), UniqueKeys cur → UniqueKeys as → (∀ a ∈ as, a.name ≠ "") →
    pass1 cur as = (as.map (pass1Of cur), cur.filter fun b => !as.any (identical · b))
  | [], cur, _, _, _ => by simp [pass1, filter_const_true]
  | a :: as, cur, hC, hA, hN => by
    have hA := List.pairwise_cons.mp hA
    rw [pass1, pass1One_eq hC (hN a List.mem_cons_self),
      pass1_eq as _ (hC.filter _) hA.2 fun x hx => hN x (List.mem_cons_of_mem _ hx), List.filter_filter]
    refine Prod.ext (congrArg (_ :: ·) (List.map_congr_left fun a' ha' => ?_))
      (List.filter_congr fun b _ => by simp [Bool.and_comm])
    -- a later HEAD rule has another key: it looks for its identical base rule among the same candidates
    unfold pass1Of
    rw [find_filter_of_imp fun x _ hx => by
      rw [identical_eq, sameKey_disjoint (hA.1 a' ha') x (sameKey_of_identical hx)]; rfl]

theorem pass2One_unmatched {cur : List Ent} (hC : UniqueKeys cur) (a : Ent) : pass2One cur (unmatched a) =
    ((match cur.find? (sameKey a) with | some b => claimed b a false | none => unmatched a),
      cur.filter fun x => !sameKey a x) := by
  simp only [pass2One, unmatched, byName, filter_eq_find (sameKey_clash a) hC]
  cases cur.find? (sameKey a) <;> rfl

/-- `h`: a rule without an identical base rule, which the first pass left unmatched, still sees the base rule of its key
in `cur`. -/
theorem pass2One_pass1Of {before cur : List Ent} (hB : UniqueKeys before) (hC : UniqueKeys cur) (a : Ent)
    (h : before.find? (identical a) = none → cur.find? (sameKey a) = before.find? (sameKey a)) :
    pass2One cur (pass1Of before a) =
      (matchOf before a, cur.filter fun x => (before.find? (identical a)).isSome || !sameKey a x) := by
  unfold pass1Of matchOf
  cases hi : before.find? (identical a) with
  | some b =>
    have hid := List.find?_some hi
    rw [find_of_mem (sameKey_clash a) hB (List.mem_of_find?_eq_some hi) (sameKey_of_identical hid)]
    simp [pass2One, claimed, hid, filter_const_true]
  | none =>
    rw [pass2One_unmatched hC, h hi]
    refine Prod.ext ?_ rfl
    cases hk : before.find? (sameKey a) with
    | none => rfl
    | some b => simp [List.find?_eq_none.mp hi b (List.mem_of_find?_eq_some hk)]

theorem pass2_eq {before : List Ent} (hB : UniqueKeys before) : ∀ (as cur : List Ent), UniqueKeys cur → UniqueKeys as →
    (∀ a ∈ as, before.find? (identical a) = none → cur.find? (sameKey a) = before.find? (sameKey a)) →
    (pass2 cur (as.map (pass1Of before))).1 = as.map (matchOf before)
  | [], _, _, _, _ => rfl
  | a :: as, cur, hC, hA, h => by
    have hA := List.pairwise_cons.mp hA
    rw [List.map_cons, pass2, pass2One_pass1Of hB hC a (h a List.mem_cons_self), List.map_cons]
    refine congrArg _ (pass2_eq hB as _ (hC.filter _) hA.2 fun a' ha' hu => ?_)
    -- the rule just processed has another key
    rw [find_filter_of_imp fun x _ hx => by simp [sameKey_disjoint (hA.1 a' ha') x hx]]
    exact h a' (List.mem_cons_of_mem _ ha') hu

theorem matchAfter_eq {before after : List Ent} (hB : UniqueKeys before) (hA : UniqueKeys after)
    (hN : ∀ a ∈ after, a.name ≠ "") : (matchAfter before after).1 = after.map (matchOf before) := by
  rw [matchAfter, pass1_eq after before hB hA hN]
  refine pass2_eq hB after _ (hB.filter _) hA fun a ha hnone => find_filter_of_imp fun x hx hax => ?_
  -- `x`, a base rule with the key of the unmatched `a`, is still there: only `a` could be identical to it, and is not
  simp only [Bool.not_eq_true', List.any_eq_false]
  intro a' ha' hid
  have hk : sameKey a a' = true :=
    sameKey_iff.mpr ((sameKey_iff.mp hax).trans (sameKey_iff.mp (sameKey_of_identical hid)).symm)
  have := (find_of_mem (sameKey_clash a) hA ha (sameKey_iff.mpr rfl)).symm.trans (find_of_mem (sameKey_clash a) hA ha' hk)
  exact List.find?_eq_none.mp hnone x hx (Option.some.inj this ▸ hid)

theorem stateOf_matchOf (before : List Ent) (a : Ent) : stateOf (matchOf before a) = specState before a := by
  unfold matchOf specState
  cases hf : before.find? (sameKey a) with
  | none => rfl
  | some b =>
    simp only [claimed, stateOf, identical_eq, List.find?_some hf, Bool.true_and]
    rw [BEq.comm (a := a.content)]
    cases a.path != b.path <;> cases b.content == a.content <;> cases b.disabled == a.disabled <;> rfl

end Pint.Props.C03
