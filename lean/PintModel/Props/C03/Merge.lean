/-
C03: the final loop of `Find` (`mergeAll`).  A later branch entry for a rule overwrites an earlier one
(`mergeAll_last`); `stateFrom` takes the first, which is the same when the branch lists no rule twice (`mergeAll_from`).
-/
import PintModel.Lemmas.Git
namespace Pint.Props.C03
open Pint.Git

theorem setFirst_unique (e : GE) : ∀ (l : List GE), (∃ g ∈ l, sameRule e g = true) →
    (l.Pairwise fun a b => ¬ (a.path = b.path ∧ a.key = b.key)) →
    setFirst e l = some (l.map fun g => if sameRule e g then { g with state := e.state } else g) := by
  intro l h hnd
  fun_induction setFirst e l with
  | case1 => simp at h
  | case2 a rest ha =>
    -- the other entries are for other rules
    have : (rest.map fun g => if sameRule e g then { g with state := e.state } else g) = rest :=
      (List.map_congr_left fun g hg => if_neg fun hg' => List.rel_of_pairwise_cons hnd hg <|
        have ha := sameRule_iff.mp ha
        have hg' := sameRule_iff.mp hg'
        ⟨ha.1.trans hg'.1.symm, ha.2.trans hg'.2.symm⟩).trans (List.map_id _)
    simp [ha, this]
  | case3 a rest ha ih =>
    obtain ⟨g, hg, hs⟩ := h
    have hg : g ∈ rest := (List.mem_cons.mp hg).resolve_left fun h => ha (h ▸ hs)
    simp [ha, ih ⟨g, hg, hs⟩ (List.pairwise_cons.mp hnd).2]

structure MergeOK (G E : List GE) : Prop where
  globDistinct : G.Pairwise fun a b => ¬ (a.path = b.path ∧ a.key = b.key)
  known : ∀ e ∈ E, e.removed = false → ∃ g ∈ G, sameRule e g = true
  branchDistinct : (E.filter fun e => !e.removed).Pairwise fun a b => ¬ (a.path = b.path ∧ a.key = b.key)

/-- `E`: the entries processed so far, newest first -/
theorem mergeOne_cons {G : List GE} (hG : G.Pairwise fun a b => ¬ (a.path = b.path ∧ a.key = b.key)) {e : GE}
    (hk : e.removed = false → ∃ g ∈ G, sameRule e g = true) (E R : List GE) :
    mergeOne (G.map (stateFrom E) ++ R) e = G.map (stateFrom (e :: E)) ++ (R ++ [e].filter (·.removed)) := by
  cases hr : e.removed with
  | true => simp [mergeOne, hr, stateFrom_cons]
  | false =>
    obtain ⟨g0, hg0, hs0⟩ := hk hr
    have hset := setFirst_append_left e R _ _ <|
      setFirst_unique e (G.map (stateFrom E)) ⟨_, List.mem_map_of_mem hg0, sameRule_stateFrom e E g0 ▸ hs0⟩ <|
        List.pairwise_map.mpr <| hG.imp fun h => by
          rwa [stateFrom_path, stateFrom_path, stateFrom_key, stateFrom_key]
    simp [mergeOne, hr, hset, stateFrom_cons, sameRule_stateFrom, stateFrom_with_state]

theorem mergeAll_last {G : List GE} (hG : G.Pairwise fun a b => ¬ (a.path = b.path ∧ a.key = b.key)) :
    ∀ (E₂ E₁ R : List GE), (∀ e ∈ E₂, e.removed = false → ∃ g ∈ G, sameRule e g = true) →
      E₂.foldl mergeOne (G.map (stateFrom E₁) ++ R) = G.map (stateFrom (E₂.reverse ++ E₁)) ++ (R ++ E₂.filter (·.removed))
  | [], _, _, _ => by simp
  | e :: rest, E₁, R, hk => by
    rw [List.foldl_cons, mergeOne_cons hG (hk e List.mem_cons_self),
      mergeAll_last hG rest _ _ fun x hx => hk x (List.mem_cons_of_mem _ hx)]
    simp [← List.filter_append]

theorem mergeAll_from (G : List GE) (hG : G.Pairwise fun a b => ¬ (a.path = b.path ∧ a.key = b.key)) :
    ∀ (E₂ E₁ : List GE), MergeOK G (E₁ ++ E₂) →
      E₂.foldl mergeOne (G.map (stateFrom E₁) ++ E₁.filter (·.removed)) =
        G.map (stateFrom (E₁ ++ E₂)) ++ (E₁ ++ E₂).filter (·.removed) := fun E₂ E₁ ok => by
  have h₁ : (E₁.filter fun e => !e.removed).Pairwise _ :=
    (List.pairwise_append.mp (List.filter_append .. ▸ ok.branchDistinct)).1
  rw [← stateFrom_reverse h₁, mergeAll_last hG E₂ _ _ fun e he => ok.known e (List.mem_append_right _ he),
    ← List.reverse_append, stateFrom_reverse ok.branchDistinct, List.filter_append]

end Pint.Props.C03
