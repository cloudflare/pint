/-
C03, lineage: `Inv` ties the change list of the fold to the reference tree, `TInv` is what the tree itself satisfies;
every applicable record keeps both (`step_preserves`).  The column of a path `p` is `liveAt t p ++ deadAt t p`; a record
changes the columns of its two paths only (`inv_step`).
-/
import PintModel.Lemmas.Git
namespace Pint.Props.C03
open Pint.Git

def liveAt (t : Tree) (p : String) : List TFile := t.live.filter fun f => atPath p f && touched f
def deadAt (t : Tree) (p : String) : List TFile := t.dead.filter (atPath p)

/-- per path, the changes pint holds: the live file's (if the branch touched it), then those of the files deleted at
this path, most recent first -/
def Inv (cs : List Chg) (t : Tree) : Prop :=
  ∀ p, cs.filter (hasAfter p) = (liveAt t p ++ deadAt t p).map toChg

/-- `fresh`: a file the branch did not touch still sits at its base path, and the branch deleted nothing there (the
file has been there since the base, and a path holds one live file). -/
structure TInv (t : Tree) : Prop where
  uniq : t.live.Pairwise fun f g => f.path ≠ g.path
  fresh : ∀ f ∈ t.live, touched f = false → f.origin = f.path ∧ deadAt t f.path = []
  deadD : ∀ f ∈ t.dead, f.st = .D
  liveND : ∀ f ∈ t.live, f.st ≠ .D

theorem hasAfter_toChg (p : String) (f : TFile) : hasAfter p (toChg f) = atPath p f := rfl

theorem atPath_touch (q : String) (c : Nat) (st : St) (d : String) (f : TFile) : atPath q (touch c st d f) = (d == q) := rfl

theorem liveAt_cons (g : TFile) (l d : List TFile) (q : String) :
    liveAt ⟨g :: l, d⟩ q = if atPath q g && touched g then g :: liveAt ⟨l, d⟩ q else liveAt ⟨l, d⟩ q := List.filter_cons

theorem deadAt_cons (g : TFile) (l d : List TFile) (q : String) :
    deadAt ⟨l, g :: d⟩ q = if atPath q g then g :: deadAt ⟨l, d⟩ q else deadAt ⟨l, d⟩ q := List.filter_cons

theorem liveAt_mk (t : Tree) (d : List TFile) (q : String) : liveAt ⟨t.live, d⟩ q = liveAt t q := rfl

theorem deadAt_mk (t : Tree) (l : List TFile) (q : String) : deadAt ⟨l, t.dead⟩ q = deadAt t q := rfl

theorem liveAt_eq {t : Tree} (hU : t.live.Pairwise fun f g => f.path ≠ g.path) (s : String) :
    liveAt t s = (t.live.find? (atPath s)).toList.filter touched := by
  rw [liveAt, filter_and, filter_eq_find atPath_clash hU]

theorem liveAt_of_not_live {t : Tree} {p : String} (h : t.live.any (atPath p) = false) : liveAt t p = [] :=
  List.filter_eq_nil_iff.mpr fun g hg => by simp [atPath, any_atPath_false h g hg]

theorem liveAt_erase {t : Tree} (hU : t.live.Pairwise fun f g => f.path ≠ g.path) (s q : String) (d : List TFile) :
    liveAt ⟨t.live.eraseP (atPath s), d⟩ q = if q = s then [] else liveAt t q := by
  split
  · next h => exact List.filter_eq_nil_iff.mpr fun g hg => by simp [h, not_of_mem_eraseP atPath_clash hU g hg]
  · next h => exact filter_eraseP_of_disjoint (fun x hx => by simp [atPath_ne hx h]) _

theorem deadAt_erase (t : Tree) (s q : String) (l : List TFile) :
    deadAt ⟨l, t.dead.eraseP (atPath s)⟩ q = if q = s then (deadAt t q).tail else deadAt t q := by
  split
  · next h => subst h; exact filter_eraseP_self _ _
  · next h => exact filter_eraseP_of_disjoint (fun x hx => atPath_ne hx h) _

theorem col_of_live {t : Tree} (hT : TInv t) {s : String} {f : TFile} (hf : t.live.find? (atPath s) = some f) :
    touched f = true ∧ liveAt t s = [f] ∨ touched f = false ∧ liveAt t s = [] ∧ deadAt t s = [] ∧ f.origin = s := by
  rw [liveAt_eq hT.uniq, hf]
  cases ht : touched f with
  | true => simp [ht]
  | false =>
    have := hT.fresh f (List.mem_of_find?_eq_some hf) ht
    rw [atPath_eq (List.find?_some hf)] at this
    simp [ht, this]

theorem tail_of_live {t : Tree} (hT : TInv t) {s : String} {f : TFile} (hf : t.live.find? (atPath s) = some f) :
    (liveAt t s ++ deadAt t s).tail = deadAt t s := by
  rcases col_of_live hT hf with ⟨_, h⟩ | ⟨_, h, hd, _⟩
  · simp [h]
  · simp [h, hd]

/-- the file whose chain a record continues, as the fold sees it: the newest file it holds a change for at `r.src`;
when it holds none, any file without commits whose origin is what `freshBefore` gives -/
def Continues (t : Tree) (r : Rec) (old : TFile) : Prop :=
  (liveAt t r.src ++ deadAt t r.src).head? = some old ∨
  liveAt t r.src ++ deadAt t r.src = [] ∧ old.commits = [] ∧ old.origin = freshBefore r

theorem continues_live {t : Tree} (hT : TInv t) {r : Rec} {f : TFile} (hf : t.live.find? (atPath r.src) = some f)
    (hst : r.st ≠ .A ∧ r.st ≠ .C) : Continues t r f := by
  rcases col_of_live hT hf with ⟨_, h⟩ | ⟨ht, h, hd, ho⟩
  · exact .inl (by simp [h])
  · exact .inr ⟨by simp [h, hd], by simpa [touched] using ht, ho.trans (freshBefore_of_ne hst.1 hst.2).symm⟩

/-- One iteration of the fold, path by path: `getChangeByPath(src)` finds the change of the file the record continues,
`changesWithout(prev)` drops it. -/
theorem inv_step {cs : List Chg} {t t' : Tree} (hI : Inv cs t) {r : Rec} {old : TFile} (hold : Continues t r old)
    (hcol : ∀ q, liveAt t' q ++ deadAt t' q = (if r.dst = q then [touch r.commit r.st r.dst old] else []) ++
      if q = r.src then (liveAt t q ++ deadAt t q).tail else liveAt t q ++ deadAt t q) :
    Inv (step cs r) t' := by
  have hfind : cs.find? (hasAfter r.src) = (liveAt t r.src ++ deadAt t r.src).head?.map toChg := by
    rw [← List.head?_filter, hI, List.head?_map]
  have hstep : step cs r = toChg (touch r.commit r.st r.dst old) :: cs.eraseP (hasAfter r.src) := by
    rw [step_eq, hfind]
    rcases hold with h | ⟨h, hc, ho⟩
    · rw [h]; rfl
    · simp [h, toChg, touch, hc, ho]
  intro q
  rw [hstep, hcol q, List.filter_cons, hasAfter_toChg, atPath_touch]
  have hrest : (cs.eraseP (hasAfter r.src)).filter (hasAfter q) =
      (if q = r.src then (liveAt t q ++ deadAt t q).tail else liveAt t q ++ deadAt t q).map toChg := by
    split
    · next h => rw [h, filter_eraseP_self, hI, List.map_tail]
    · next h => rw [filter_eraseP_of_disjoint (fun c hc => hasAfter_ne hc h), hI]
  rw [hrest]
  by_cases hd : r.dst = q <;> simp [hd]

theorem TInv.sub {t : Tree} (hT : TInv t) {l d : List TFile} (hl : l.Sublist t.live) (hd : d.Sublist t.dead) :
    TInv ⟨l, d⟩ where
  uniq := hT.uniq.sublist hl
  fresh f hf ht :=
    have h := hT.fresh f (hl.subset hf) ht
    ⟨h.1, List.sublist_nil.mp (h.2 ▸ hd.filter _)⟩
  deadD f hf := hT.deadD f (hd.subset hf)
  liveND f hf := hT.liveND f (hl.subset hf)

theorem TInv.consLive {l d : List TFile} (hT : TInv ⟨l, d⟩) {nf : TFile} (hfree : ∀ g ∈ l, g.path ≠ nf.path)
    (ht : touched nf = true) (hst : nf.st ≠ .D) : TInv ⟨nf :: l, d⟩ where
  uniq := List.pairwise_cons.mpr ⟨fun g hg => (hfree g hg).symm, hT.uniq⟩
  fresh := List.forall_mem_cons.mpr ⟨fun h => (by rw [ht] at h; cases h), hT.fresh⟩
  deadD := hT.deadD
  liveND := List.forall_mem_cons.mpr ⟨hst, hT.liveND⟩

theorem TInv.consDead {l d : List TFile} (hT : TInv ⟨l, d⟩) {nf : TFile} (hfree : ∀ g ∈ l, g.path ≠ nf.path)
    (hst : nf.st = .D) : TInv ⟨l, nf :: d⟩ where
  uniq := hT.uniq
  fresh g hg hgt := by
    rw [deadAt_cons, if_neg (by simpa [atPath] using (hfree g hg).symm)]
    exact hT.fresh g hg hgt
  deadD := List.forall_mem_cons.mpr ⟨hst, hT.deadD⟩
  liveND := hT.liveND

theorem free_of_erase {t : Tree} (hT : TInv t) {s d : String} (hd : d = s ∨ t.live.any (atPath d) = false) :
    ∀ g ∈ t.live.eraseP (atPath s), g.path ≠ d := fun g hg e => by
  rcases hd with rfl | h
  · simpa [atPath, e] using not_of_mem_eraseP atPath_clash hT.uniq g hg
  · exact any_atPath_false h g (List.eraseP_subset hg) e

theorem preserve_move {cs : List Chg} {t : Tree} (hI : Inv cs t) (hT : TInv t) {r : Rec} {f : TFile}
    (hf : t.live.find? (atPath r.src) = some f) (hst : r.st ≠ .A ∧ r.st ≠ .C ∧ r.st ≠ .D)
    (hdst : r.dst = r.src ∨ t.live.any (atPath r.dst) = false) :
    let t' : Tree := { live := touch r.commit r.st r.dst f :: t.live.eraseP (atPath r.src), dead := t.dead }
    Inv (step cs r) t' ∧ TInv t' := by
  refine ⟨inv_step hI (continues_live hT hf ⟨hst.1, hst.2.1⟩) fun q => ?_,
    TInv.consLive (hT.sub List.eraseP_sublist (List.Sublist.refl _)) (free_of_erase hT hdst) (touched_touch ..) hst.2.2⟩
  rw [liveAt_cons, atPath_touch, touched_touch, liveAt_erase hT.uniq]
  by_cases hq : q = r.src <;> by_cases hd : r.dst = q <;> simp [hq, hd, tail_of_live hT hf, deadAt_mk]

theorem preserve_delete {cs : List Chg} {t : Tree} (hI : Inv cs t) (hT : TInv t) {r : Rec} {f : TFile}
    (hf : t.live.find? (atPath r.src) = some f) (hst : r.st = .D) (hdst : r.dst = r.src) :
    let t' : Tree := { live := t.live.eraseP (atPath r.src), dead := touch r.commit .D r.dst f :: t.dead }
    Inv (step cs r) t' ∧ TInv t' := by
  refine ⟨hst ▸ inv_step hI (continues_live hT hf (by simp [hst])) fun q => ?_,
    TInv.consDead (hT.sub List.eraseP_sublist (List.Sublist.refl _)) (free_of_erase hT (.inl hdst)) rfl⟩
  rw [deadAt_cons, atPath_touch, liveAt_erase hT.uniq, hdst]
  by_cases hq : q = r.src
  · simp [hq, tail_of_live hT hf, deadAt_mk]
  · simp [hq, Ne.symm hq, deadAt_mk]

theorem preserve_add {cs : List Chg} {t : Tree} (hI : Inv cs t) (hT : TInv t) {r : Rec}
    (hst : r.st = .A) (hfree : t.live.any (atPath r.dst) = false) (hsrc : r.src = r.dst) (hex : r.exBefore = false) :
    Inv (step cs r) (applyRec t r) ∧ TInv (applyRec t r) := by
  have hold : Continues t r ((t.dead.find? (atPath r.dst)).getD ⟨r.dst, "", [], .A⟩) := by
    unfold Continues
    rw [hsrc, liveAt_of_not_live hfree, List.nil_append, deadAt, List.head?_filter]
    cases hd : t.dead.find? (atPath r.dst) with
    | some d => exact .inl rfl
    | none => exact .inr ⟨by simpa using hd, rfl, by simp [freshBefore, hst, hex]⟩
  rw [applyRec_add hst]
  refine ⟨inv_step hI hold fun q => ?_, TInv.consLive (hT.sub (List.Sublist.refl _) List.eraseP_sublist)
    (any_atPath_false hfree) (touched_touch ..) (by simp [touch, hst])⟩
  rw [liveAt_cons, atPath_touch, touched_touch, deadAt_erase, hsrc]
  by_cases hq : q = r.dst
  · simp [hq, liveAt_of_not_live hfree, liveAt_mk]
  · simp [hq, Ne.symm hq, liveAt_mk]

theorem step_preserves {cs : List Chg} {t : Tree} (hI : Inv cs t) (hT : TInv t) {r : Rec} (ha : applicable t r = true) :
    Inv (step cs r) (applyRec t r) ∧ TInv (applyRec t r) := by
  rcases applicable_cases ha with ⟨hst, hfree, hsrc, hex⟩ | ⟨f, hf, hdst, ⟨hst, hd, happ⟩ | ⟨hst, happ⟩⟩
  · exact preserve_add hI hT hst hfree hsrc hex
  · rw [happ]; exact preserve_delete hI hT hf hst hd
  · rw [happ]; exact preserve_move hI hT hf hst hdst

theorem run_preserves : ∀ (rs : List Rec) (cs : List Chg) (t : Tree), Inv cs t → TInv t → WF t rs →
    Inv (rs.foldl step cs) (run t rs) ∧ TInv (run t rs)
  | [], _, _, hI, hT, _ => ⟨hI, hT⟩
  | r :: rs, cs, t, hI, hT, hW => by
    have h := step_preserves hI hT hW.1
    exact run_preserves rs (step cs r) (applyRec t r) h.1 h.2 hW.2

theorem base_inv (paths : List String) (hN : paths.Nodup) : Inv [] (baseTree paths) ∧ TInv (baseTree paths) := by
  refine ⟨fun q => by simp [liveAt, deadAt, baseTree, touched], List.Pairwise.map _ (fun a b h => h) hN, ?_, nofun, ?_⟩
  all_goals
    intro f hf
    obtain ⟨p, _, rfl⟩ := List.mem_map.mp hf
    simp [deadAt, baseTree]

theorem fold_inv (paths : List String) (hN : paths.Nodup) (rs : List Rec) (hW : WF (baseTree paths) rs) :
    Inv (fold rs) (run (baseTree paths) rs) ∧ TInv (run (baseTree paths) rs) :=
  run_preserves rs [] _ (base_inv paths hN).1 (base_inv paths hN).2 hW

end Pint.Props.C03
