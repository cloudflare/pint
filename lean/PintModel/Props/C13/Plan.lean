/-
  The slice plan: `sliceRange` and the slice size `RangeQuery` chooses.  Slicing terminates for every positive step,
  the slice size is a whole number of steps, and the slices tile the grid that starts at the first slice: aligned,
  ordered, inside the range, leaving no grid instant out (`SlicesOK`, `plan_ok`).
-/
import PintModel.Model.Range
namespace Pint.Props.C13
open Pint.Range

/-- `omega` does not see through divisibility by a variable: it supplies the equation, these the divisibility -/
theorem dvd_of_eq_add {m a d b : Int} (ha : m ∣ a) (hd : m ∣ d) (e : b = a + d) : m ∣ b := e ▸ Int.dvd_add ha hd

theorem dvd_of_eq_sub {m a d b : Int} (ha : m ∣ a) (hd : m ∣ d) (e : b = a - d) : m ∣ b := e ▸ Int.dvd_sub ha hd

def Contig : List TR → Prop
  | [] => True
  | [_] => True
  | x :: y :: r => y.s = x.e + 1 ∧ Contig (y :: r)

/-- untrimmed slices: each starts where the previous one ends, `size` after its own start -/
def ChainFrom (size : Int) : Int → List TR → Prop
  | _, [] => True
  | k, [x] => x.s = k
  | k, x :: y :: r => x.s = k ∧ x.e = k + size ∧ ChainFrom size (k + size) (y :: r)

theorem sliceLoop_pos {k end_ : Int} (h : k < end_) (f : Nat) (size : Int) :
    sliceLoop (f + 1) k end_ size = ⟨k, if k + size > end_ then end_ else k + size⟩ :: sliceLoop f (k + size) end_ size := by
  simp [sliceLoop, h]

theorem sliceLoop_neg {k end_ : Int} (h : ¬ k < end_) (f : Nat) (size : Int) : sliceLoop f k end_ size = [] := by
  cases f <;> simp [sliceLoop, h]

theorem chainFrom_head {size k : Int} {x : TR} {l : List TR} (h : ChainFrom size k (x :: l)) : x.s = k := by
  cases l with
  | nil => exact h
  | cons _ _ => exact h.1

theorem sliceLoop_ne_nil {fuel : Nat} {k end_ size : Int} (h : sliceLoop fuel k end_ size ≠ []) : k < end_ :=
  Decidable.by_contra fun hn => h (sliceLoop_neg hn ..)

/-- one iteration of the loop of `sliceRange`, and its first slice: a slice from `k` to `k' = k + size`, clipped at
`end`, in front of the later slices `L`.  Those exist only when `k'` is before `end`, and the slice is a full one then;
when none follow it ends at `end`. -/
theorem clipped_cons {size k k' end_ : Int} {x : TR} {L : List TR} (hx : x = ⟨k, if k' > end_ then end_ else k'⟩)
    (hk : k' = k + size) (hc : ChainFrom size k' L) (hle : ∀ y ∈ L, y.e ≤ end_) (hne : L ≠ [] → k' < end_) :
    ChainFrom size k (x :: L) ∧ (∀ y ∈ x :: L, y.e ≤ end_) ∧
    ((k' < end_ → (L.getLast?).map (·.e) = some end_) → ((x :: L).getLast?).map (·.e) = some end_) := by
  subst hx hk
  refine ⟨?_, List.forall_mem_cons.mpr ⟨by simp only; split <;> omega, hle⟩, fun hlast => ?_⟩
  · cases L with
    | nil => rfl
    | cons y r =>
      have := hne (by simp)
      exact ⟨rfl, by simp only; split <;> omega, hc⟩
  · by_cases h : k + size < end_
    · have hl := hlast h
      cases L with
      | nil => cases hl
      | cons y r => rwa [List.getLast?_cons_cons]
    · obtain rfl : L = [] := Decidable.by_contra fun hL => h (hne hL)
      simp only [List.getLast?_singleton, Option.map_some, Option.some.injEq]
      split <;> omega

theorem sliceLoop_spec (size end_ : Int) (fuel : Nat) (k : Int) :
    ChainFrom size k (sliceLoop fuel k end_ size) ∧ (∀ x ∈ sliceLoop fuel k end_ size, x.e ≤ end_) ∧
    (k < end_ → end_ - k ≤ fuel * size → ((sliceLoop fuel k end_ size).getLast?).map (·.e) = some end_) := by
  fun_induction sliceLoop fuel k end_ size with
  | case1 k => exact ⟨trivial, by simp, fun hk hf => by simp at hf; omega⟩
  | case2 k f hk ih =>
    obtain ⟨c, e, l⟩ := ih
    obtain ⟨c', e', l'⟩ := clipped_cons rfl rfl c e sliceLoop_ne_nil
    refine ⟨c', e', fun _ hf => l' fun hnext => l hnext ?_⟩
    have : ((f.succ : Nat) : Int) * size = f * size + size := by
      rw [Int.natCast_succ, Int.add_mul, Int.one_mul]
    omega
  | case3 k f hk => exact ⟨trivial, by simp, fun h => absurd h hk⟩

theorem trimEnds_eq_nil {l : List TR} : trimEnds l = [] ↔ l = [] := by
  fun_cases trimEnds l <;> simp

theorem trimEnds_contig (size : Int) (k : Int) (l : List TR) (h : ChainFrom size k l) : Contig (trimEnds l) := by
  fun_induction ChainFrom size k l with
  | case1 => trivial
  | case2 => trivial
  | case3 k x y r ih =>
    obtain ⟨_, hxe, hrest⟩ := h
    have hy := chainFrom_head hrest
    cases r with
    | nil => exact ⟨by simp only; omega, trivial⟩
    | cons z r' => exact ⟨by simp only; omega, ih hrest⟩

theorem trimEnds_last (l : List TR) : ((trimEnds l).getLast?).map (·.e) = (l.getLast?).map (·.e) := by
  fun_induction trimEnds l with
  | case1 => rfl
  | case2 x => rfl
  | case3 x y r ih =>
    rw [List.getLast?_cons_cons, ← ih]
    cases hr : trimEnds (y :: r) with
    | nil => simp [trimEnds_eq_nil] at hr
    | cons z r' => rw [List.getLast?_cons_cons]

theorem roundDur_eq_zero (d m : Int) (hd : 0 ≤ d) (hm : 0 < m) : roundDur d m = 0 ↔ d + d < m := by
  unfold roundDur
  have h0 : ¬ m ≤ 0 := by omega
  simp only [h0, if_false]
  have hmod := Int.emod_lt_of_pos d hm
  by_cases hbig : d < m
  · rw [Int.emod_eq_of_lt hd hbig]
    split <;> omega
  · split <;> omega

/-- `(2h).Round(step)` is zero exactly when the step exceeds four hours -/
theorem slice_size_zero_iff (step : Int) (hs : 0 < step) : roundDur 7200 step = 0 ↔ 14400 < step := by
  rw [roundDur_eq_zero 7200 step (by omega) hs]
  omega

theorem sliceSize_pos (step : Int) (hs : 0 < step) : 0 < sliceSize step := by
  fun_cases sliceSize step
  · exact hs
  · omega

theorem sliceRange_single {start end_ res : Int} (h : end_ - start ≤ res) (size : Int) :
    sliceRange start end_ res size = some [⟨start, end_⟩] := by
  unfold sliceRange
  exact if_pos h

theorem sliceRange_some (start end_ res size : Int) (hsz : 0 < size) : ∃ l, sliceRange start end_ res size = some l := by
  by_cases h : end_ - start ≤ res
  · exact ⟨_, sliceRange_single h size⟩
  · unfold sliceRange
    exact ⟨_, (if_neg h).trans (if_neg (by omega))⟩

/-- slicing terminates for every positive step -/
theorem plan_terminates (start end_ lookback step : Int) (hs : 0 < step) :
    ∃ l, plan start end_ lookback step = some l := by
  fun_cases plan start end_ lookback step
  · exact ⟨_, rfl⟩
  · exact sliceRange_some _ _ _ _ (sliceSize_pos step hs)

/-- with a slice size of zero the loop of `sliceRange` does not advance (`none` in the model): by `slice_size_zero_iff`,
every step above four hours before pint's fix aa07510, since which `RangeQuery` falls back to the step (the first branch
of `sliceSize`; `plan_terminates`). -/
theorem sliceRange_none_of_zero (start end_ res : Int) (h : res < end_ - start) :
    sliceRange start end_ res 0 = none := by
  unfold sliceRange
  have : ¬ end_ - start ≤ res := by omega
  simp [this]

theorem roundDur_dvd (d m : Int) (hm : 0 < m) : m ∣ roundDur d m := by
  have hr : m ∣ d - d % m := Int.dvd_self_sub_of_emod_eq rfl
  fun_cases roundDur d m
  · omega
  · exact hr
  · exact dvd_of_eq_add hr (Int.dvd_refl m) (by omega)

/-- the slice size pint chooses is a whole number of steps, so the slices' sample grids line up into one -/
theorem slice_size_multiple_of_step (step : Int) (hs : 0 < step) : step ∣ sliceSize step := by
  fun_cases sliceSize step
  · exact Int.dvd_refl step
  · exact roundDur_dvd 7200 step hs

/-- `sliceRange` when it does slice: a trimmed chain that ends at `end_`.  `0 ≤ res` is used in one case only: when the
rounded start is not after `start`, `end_ - start > res ≥ 0` puts `end_` after it, so the loop runs. -/
theorem sliceRange_multi (start end_ res size : Int) (l : List TR) (h : sliceRange start end_ res size = some l)
    (hgap : ¬ end_ - start ≤ res) :
    ∃ U k0, l = trimEnds U ∧ ChainFrom size k0 U ∧ (∀ x ∈ U, x.e ≤ end_) ∧ 0 < size ∧
      (0 ≤ res → (U.getLast?).map (·.e) = some end_) := by
  unfold sliceRange at h
  rw [if_neg hgap] at h
  by_cases hsize : size ≤ 0
  · rw [if_pos hsize] at h; cases h
  · rw [if_neg hsize] at h
    have hsz : 0 < size := by omega
    cases h
    -- where `Time.Round` puts the first slice does not matter: the grid is taken from wherever the plan starts
    generalize roundTime start size = r
    obtain ⟨hc, hle, hl⟩ := sliceLoop_spec size end_ ((end_ - r) / size + 2).toNat r
    have hlast : r < end_ → ((sliceLoop ((end_ - r) / size + 2).toNat r end_ size).getLast?).map (·.e) = some end_ := by
      intro hlt
      refine hl hlt ?_
      have := Int.lt_mul_ediv_self_add (x := end_ - r) hsz
      have hq : 0 ≤ (end_ - r) / size := Int.ediv_nonneg (by omega) (by omega)
      rw [Int.toNat_of_nonneg (by omega), Int.add_mul, Int.mul_comm]
      omega
    by_cases hr : r > start
    · simp only [hr, if_true]
      obtain ⟨c, e, l⟩ := clipped_cons (k := r - size) rfl (by omega) hc hle sliceLoop_ne_nil
      exact ⟨_, r - size, rfl, c, e, hsz, fun _ => l hlast⟩
    · simp only [hr, if_false, List.nil_append]
      exact ⟨_, r, rfl, hc, hle, hsz, fun hres => hlast (by omega)⟩

theorem sliceRange_shape (start end_ res size : Int) (l : List TR) (h : sliceRange start end_ res size = some l)
    (hgap : ¬ end_ - start ≤ res) :
    ∃ U k0, l = trimEnds U ∧ ChainFrom size k0 U ∧ (∀ x ∈ U, x.e ≤ end_) ∧ 0 < size := by
  obtain ⟨U, k0, h1, h2, h3, h4, _⟩ := sliceRange_multi start end_ res size l h hgap
  exact ⟨U, k0, h1, h2, h3, h4⟩

/-- what the merge needs from a slice plan, relative to the grid that starts at `o` and ends at `end_` -/
structure SlicesOK (o step end_ : Int) (slices : List TR) : Prop where
  aligned : ∀ sl ∈ slices, step ∣ (sl.s - o)
  ordered : slices.Pairwise fun a b => a.e < b.s
  within : ∀ sl ∈ slices, o ≤ sl.s ∧ sl.e ≤ end_
  covers : ∀ k : Nat, o + (k : Int) * step ≤ end_ → ∃ sl ∈ slices, sl.s ≤ o + (k : Int) * step ∧ o + (k : Int) * step ≤ sl.e

theorem chainFrom_starts (size : Int) (hsz : 0 ≤ size) (l : List TR) (k : Int) (h : ChainFrom size k l) :
    ∀ x ∈ l, size ∣ (x.s - k) ∧ k ≤ x.s := by
  fun_induction ChainFrom size k l with
  | case1 => simp
  | case2 k x => simp [show x.s = k from h]
  | case3 k a b r ih =>
    obtain ⟨h1, _, h3⟩ := h
    refine List.forall_mem_cons.mpr ⟨by simp [h1], fun x hx => ?_⟩
    obtain ⟨d, hle⟩ := ih h3 x hx
    exact ⟨dvd_of_eq_add d (Int.dvd_refl _) (by omega), by omega⟩

theorem trimEnds_mem (l : List TR) : ∀ x ∈ trimEnds l, ∃ y ∈ l, x.s = y.s ∧ x.e ≤ y.e := by
  fun_induction trimEnds l with
  | case1 => simp
  | case2 x => simp
  | case3 a b r ih =>
    refine List.forall_mem_cons.mpr ⟨⟨a, by simp, rfl, by simp only; omega⟩, fun x hx => ?_⟩
    obtain ⟨y, hy, h⟩ := ih x hx
    exact ⟨y, List.mem_cons_of_mem _ hy, h⟩

theorem trimEnds_head (l : List TR) (d : TR) : ((trimEnds l).headD d).s = (l.headD d).s := by
  fun_cases trimEnds l <;> rfl

theorem trimEnds_ordered (size : Int) (hsz : 1 ≤ size) (l : List TR) : ∀ k, ChainFrom size k l →
    (trimEnds l).Pairwise fun a b => a.e < b.s := by
  fun_induction trimEnds l with
  | case1 => simp
  | case2 => simp
  | case3 a b r ih =>
    intro k ⟨h1, h2, h3⟩
    refine List.pairwise_cons.mpr ⟨fun z hz => ?_, ih (k + size) h3⟩
    obtain ⟨y, hy, e1, _⟩ := trimEnds_mem _ z hz
    have := (chainFrom_starts size (by omega) _ (k + size) h3 y hy).2
    simp only; omega

theorem contig_covers (l : List TR) (u : Int) : Contig l → (∀ d, (l.headD d).s ≤ u) → l ≠ [] →
    (∀ e, (l.getLast?).map (·.e) = some e → u ≤ e) → ∃ x ∈ l, x.s ≤ u ∧ u ≤ x.e := by
  fun_induction Contig l with
  | case1 => intro _ _ h _; exact absurd rfl h
  | case2 a => intro _ hh _ hl; exact ⟨a, by simp, hh a, hl a.e (by simp)⟩
  | case3 a b r ih =>
    intro ⟨_, h2⟩ hh _ hl
    by_cases hle : u ≤ a.e
    · exact ⟨a, by simp, hh a, hle⟩
    · obtain ⟨x, hx, hx1, hx2⟩ := ih h2 (fun d => by simp only [List.headD_cons]; omega) (by simp)
        (fun e he => hl e (by simpa [List.getLast?_cons_cons] using he))
      exact ⟨x, List.mem_cons_of_mem _ hx, hx1, hx2⟩

/-- every plan is a trimmed chain (a single slice is a chain of one); a trimmed chain tiles the grid from its first slice -/
theorem chain_ok {size step k0 end_ : Int} {U : List TR} (hs : 1 ≤ step) (hq : 0 < size) (hdvd : step ∣ size)
    (hchain : ChainFrom size k0 U) (hends : ∀ x ∈ U, x.e ≤ end_) (hlast : (U.getLast?).map (·.e) = some end_) (d : TR) :
    SlicesOK ((trimEnds U).headD d).s step end_ (trimEnds U) := by
  have starts := chainFrom_starts size (by omega) _ k0 hchain
  cases U with
  | nil => cases hlast
  | cons a U' =>
    rw [trimEnds_head, List.headD_cons, chainFrom_head hchain]
    refine ⟨fun sl hsl => ?_, trimEnds_ordered size (by omega) _ k0 hchain, fun sl hsl => ?_, fun k hk => ?_⟩
    · obtain ⟨y, hy, e1, _⟩ := trimEnds_mem _ sl hsl
      exact e1 ▸ Int.dvd_trans hdvd (starts y hy).1
    · obtain ⟨y, hy, e1, e2⟩ := trimEnds_mem _ sl hsl
      have := (starts y hy).2
      have := hends y hy
      omega
    · have hk0 : (0 : Int) ≤ (k : Int) * step := Int.mul_nonneg (by omega) (by omega)
      refine contig_covers _ _ (trimEnds_contig _ k0 _ hchain) (fun d => ?_) (by simp [trimEnds_eq_nil]) (fun e he => ?_)
      · rw [trimEnds_head, List.headD_cons, chainFrom_head hchain]; omega
      · rw [trimEnds_last, hlast] at he
        cases he; exact hk

theorem plan_ok (start end_ lookback step : Int) (hs : 1 ≤ step) (slices : List TR)
    (h : plan start end_ lookback step = some slices) :
    SlicesOK (slices.headD ⟨start, end_⟩).s step end_ slices := by
  have single : SlicesOK start step end_ [⟨start, end_⟩] :=
    chain_ok (size := step) (U := [⟨start, end_⟩]) hs (by omega) (Int.dvd_refl _) rfl (by simp) rfl ⟨start, end_⟩
  unfold plan at h
  simp only [] at h
  split at h
  · cases h; exact single
  · by_cases hgap : end_ - start ≤ step
    · rw [sliceRange_single hgap] at h; cases h
      exact single
    · obtain ⟨U, k0, rfl, hchain, hends, hq, hlast⟩ := sliceRange_multi start end_ step (sliceSize step) slices h hgap
      exact chain_ok hs hq (slice_size_multiple_of_step step (by omega)) hchain hends (hlast (by omega)) _

end Pint.Props.C13
