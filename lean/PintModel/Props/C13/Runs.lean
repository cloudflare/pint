/-
  What one slice contributes.  `AppendSampleToRanges` folds ascending samples into runs more than a step apart
  (`append_is_runs`, `fold_asc`); on a grid that is at least two steps (`fold_inv`), so the stretched runs are aligned,
  disjoint and canonical (`outRuns_facts`), and such ranges form a family (`fam_of_aligned`).  Then the slices of a plan
  that tiles the grid together: their samples are the grid's, their ranges a family (`SlicesOK.mem_grid`, `.fam`).
-/
import PintModel.Props.C13.Merge
import PintModel.Props.C13.Plan
import PintModel.Spec.Presence
namespace Pint.Props.C13
open Pint.Range Pint.Spec.Presence

def mk (fp : Nat) (p : Int × Int) : MTR := ⟨fp, p.1, p.2⟩

/-- The environment assumption of the property: for a series present at the instants `present`, the answer to a slice
`[s, e]` holds the samples at `s + k·step ≤ e` and no others (Prometheus `query_range`, each slice on its own grid). -/
def gridSamples (present : Int → Bool) (s e step : Int) : List Int :=
  (List.range ((e - s) / step + 1).toNat).filterMap fun (k : Nat) =>
    let t : Int := s + (k : Int) * step
    if present t then some t else none

/-- what one slice answers for one series, after `ExpandRangesEnd` -/
def sliceRanges (step : Int) (fp : Nat) (present : Int → Bool) (sl : TR) : List MTR :=
  expandEnds step (appendSamples step fp (gridSamples present sl.s sl.e step) [])

/-- the runs so far (most recent first) as first and last sample, more than a step between any two -/
structure Inv (step : Int) (acc : List (Int × Int)) : Prop where
  wf : ∀ p ∈ acc, p.1 ≤ p.2
  sep : acc.Pairwise fun p q => q.2 + step < p.1

theorem Inv.head {step a b : Int} {rest : List (Int × Int)} (h : Inv step ((a, b) :: rest)) :
    a ≤ b ∧ ∀ q ∈ rest, q.1 ≤ q.2 ∧ q.2 + step < a :=
  ⟨h.wf (a, b) List.mem_cons_self, fun q hq => ⟨h.wf q (List.mem_cons_of_mem _ hq), (List.pairwise_cons.mp h.sep).1 q hq⟩⟩

/-- seconds covered by the runs once every run is stretched to the end of its last sample's step -/
def pcov (step : Int) (acc : List (Int × Int)) (t : Int) : Prop := ∃ p ∈ acc, p.1 ≤ t ∧ t ≤ p.2 + step - 1

theorem pcov_cons (step : Int) (p : Int × Int) (acc : List (Int × Int)) (t : Int) :
    pcov step (p :: acc) t ↔ (p.1 ≤ t ∧ t ≤ p.2 + step - 1) ∨ pcov step acc t := by
  simp only [pcov, List.mem_cons, exists_eq_or_imp]

theorem addRun_cases (step : Int) (acc : List (Int × Int)) (t : Int) (h : Inv step acc) (hlt : ∀ p ∈ acc, p.2 < t) :
    (∃ a b rest, acc = (a, b) :: rest ∧ t ≤ b + step ∧ addRun step acc t = (a, t) :: rest) ∨
    (addRun step acc t = (t, t) :: acc ∧ ∀ p ∈ acc, p.2 + step < t) := by
  fun_cases addRun step acc t with
  | case1 => exact .inr ⟨rfl, by simp⟩
  | case2 a b rest hle => exact .inl ⟨a, b, rest, rfl, hle, rfl⟩
  | case3 a b rest hle =>
    refine .inr ⟨rfl, List.forall_mem_cons.mpr ⟨by omega, fun p hp => ?_⟩⟩
    have := h.head.1
    have := h.head.2 p hp
    have := hlt (a, b) List.mem_cons_self
    omega

/-- a run starts (`P`) and ends (`Q`) at a sample, so what holds of every sample and of the old end points holds of the
new -/
theorem addRun_ends (step : Int) (P Q : Int → Prop) (acc : List (Int × Int)) (t : Int) (ht : P t ∧ Q t)
    (h : ∀ q ∈ acc, P q.1 ∧ Q q.2) : ∀ p ∈ addRun step acc t, P p.1 ∧ Q p.2 := by
  fun_cases addRun step acc t with
  | case1 => simpa using ht
  | case2 a b rest =>
    exact List.forall_mem_cons.mpr ⟨⟨(h _ List.mem_cons_self).1, ht.2⟩, fun p hp => h p (List.mem_cons_of_mem _ hp)⟩
  | case3 => exact List.forall_mem_cons.mpr ⟨ht, h⟩

theorem fold_ends (step : Int) (P Q : Int → Prop) : ∀ (ts : List Int) (acc : List (Int × Int)),
    (∀ u ∈ ts, P u ∧ Q u) → (∀ q ∈ acc, P q.1 ∧ Q q.2) → ∀ p ∈ ts.foldl (addRun step) acc, P p.1 ∧ Q p.2
  | [], _, _, h => h
  | t :: ts, acc, hts, h => fold_ends step P Q ts _ (fun u hu => hts u (List.mem_cons_of_mem _ hu))
      (addRun_ends step P Q acc t (hts t List.mem_cons_self) h)

theorem addRun_inv (step : Int) (acc : List (Int × Int)) (t : Int) (h : Inv step acc) (hlt : ∀ p ∈ acc, p.2 < t) :
    Inv step (addRun step acc t) ∧
    (∀ p ∈ addRun step acc t, p.2 ≤ t) ∧
    (∀ t', pcov step (addRun step acc t) t' ↔ pcov step acc t' ∨ (t ≤ t' ∧ t' ≤ t + step - 1)) := by
  have le := fun p hp => (addRun_ends step (fun _ => True) (· ≤ t) acc t ⟨trivial, Int.le_refl t⟩
    (fun q hq => ⟨trivial, Int.le_of_lt (hlt q hq)⟩) p hp).2
  rcases addRun_cases step acc t h hlt with ⟨a, b, rest, rfl, hle, e⟩ | ⟨e, far⟩ <;> rw [e] at le ⊢
  · have hab := h.head.1
    have hbt : b < t := hlt (a, b) List.mem_cons_self
    refine ⟨⟨List.forall_mem_cons.mpr ⟨by simp only; omega, fun p hp => h.wf p (List.mem_cons_of_mem _ hp)⟩,
        List.pairwise_cons.mpr (List.pairwise_cons.mp h.sep)⟩, le, fun t' => ?_⟩
    have : (a ≤ t' ∧ t' ≤ t + step - 1) ↔ (a ≤ t' ∧ t' ≤ b + step - 1) ∨ (t ≤ t' ∧ t' ≤ t + step - 1) := by omega
    rw [pcov_cons, pcov_cons, this, or_right_comm]
  · refine ⟨⟨List.forall_mem_cons.mpr ⟨Int.le_refl _, h.wf⟩, List.pairwise_cons.mpr ⟨far, h.sep⟩⟩, le, fun t' => ?_⟩
    rw [pcov_cons]
    exact or_comm

def render (fp : Nat) (acc : List (Int × Int)) : List MTR := acc.reverse.map (mk fp)

theorem appendSample_append (step : Int) (fp : Nat) (t : Int) (init l : List MTR)
    (h : ∀ r ∈ init, r.e + step < t ∧ r.s < t) :
    appendSample step fp t (init ++ l) = init ++ appendSample step fp t l := by
  induction init with
  | nil => rfl
  | cons r init ih =>
    obtain ⟨h1, h2⟩ := h r (by simp)
    have c1 : ¬ (r.s - step ≤ t ∧ t ≤ r.s) := by omega
    have c2 : ¬ (r.s ≤ t ∧ t ≤ r.e + step) := by omega
    simp [appendSample, c1, c2, ih fun x hx => h x (by simp [hx])]

/-- the older ranges ended more than a step before `t` and are passed over; the current one, behind them, takes the
sample or a new range is opened -/
theorem appendSample_render (step : Int) (fp : Nat) (acc : List (Int × Int)) (t : Int)
    (hi : Inv step acc) (ht : ∀ p ∈ acc, p.2 < t) :
    appendSample step fp t (render fp acc) = render fp (addRun step acc t) := by
  match acc with
  | [] => simp [render, addRun, appendSample, mk]
  | (a, b) :: rest =>
    have hab := hi.head.1
    have hbt : b < t := ht (a, b) List.mem_cons_self
    have c1 : ¬ (a - step ≤ t ∧ t ≤ a) := by omega
    have c2 : a ≤ t := by omega
    rw [render, List.reverse_cons, List.map_append, appendSample_append]
    · by_cases h : t ≤ b + step <;> simp [render, appendSample, addRun, mk, c1, c2, h]
    · refine List.forall_mem_map.mpr fun q hq => ?_
      have hq := List.mem_reverse.mp hq
      have := hi.head.2 q hq
      have := ht q (List.mem_cons_of_mem _ hq)
      simp only [mk]; omega

theorem fold_asc (step : Int) (ts : List Int) :
    ∀ acc, Inv step acc → ts.Pairwise (· < ·) → (∀ p ∈ acc, ∀ u ∈ ts, p.2 < u) →
      Inv step (ts.foldl (addRun step) acc) ∧
      (∀ t', pcov step (ts.foldl (addRun step) acc) t' ↔ pcov step acc t' ∨ ∃ u ∈ ts, u ≤ t' ∧ t' ≤ u + step - 1) ∧
      ∀ fp, appendSamples step fp ts (render fp acc) = render fp (ts.foldl (addRun step) acc) := by
  induction ts with
  | nil => exact fun acc h _ _ => ⟨h, by simp, fun _ => rfl⟩
  | cons t ts ih =>
    intro acc h hg hlt
    have hgp := List.pairwise_cons.mp hg
    have ht := fun p hp => hlt p hp t List.mem_cons_self
    obtain ⟨a1, a2, a3⟩ := addRun_inv step acc t h ht
    obtain ⟨b1, b2, b3⟩ := ih (addRun step acc t) a1 hgp.2 (fun p hp u hu => Int.lt_of_le_of_lt (a2 p hp) (hgp.1 u hu))
    exact ⟨b1, fun t' => by simp only [List.foldl_cons, b2 t', a3 t', List.mem_cons, exists_eq_or_imp, or_assoc],
      fun fp => (congrArg (appendSamples step fp ts) (appendSample_render step fp acc t h ht)).trans (b3 fp)⟩

theorem pairwise_of_asc : ∀ {lo : Int} {ts : List Int}, Asc lo ts → (∀ u ∈ ts, lo < u) ∧ ts.Pairwise (· < ·)
  | _, [], _ => ⟨by simp, .nil⟩
  | _, _ :: _, ⟨h, hts⟩ =>
    have ⟨a, b⟩ := pairwise_of_asc hts
    ⟨List.forall_mem_cons.mpr ⟨h, fun u hu => Int.lt_trans h (a u hu)⟩, List.pairwise_cons.mpr ⟨a, b⟩⟩

/-- `AppendSampleToRanges` = `Spec.Presence.runs`: ascending samples are folded into the maximal runs of samples at most
a step apart -/
theorem append_is_runs (step : Int) (hs : 0 ≤ step) (fp : Nat) (lo : Int) (ts : List Int) (h : Asc lo ts) :
    appendSamples step fp ts [] = (runs step ts).map (mk fp) :=
  (fold_asc step ts [] ⟨by simp, .nil⟩ (pairwise_of_asc h).2 (by simp)).2.2 fp

theorem grid_gap (o step a b : Int) (ha : step ∣ (a - o)) (hb : step ∣ (b - o)) (hab : a ≤ b) :
    a = b ∨ a + step ≤ b := by
  by_cases h0 : b - a = 0
  · left; omega
  · right
    have := Int.le_of_dvd (by omega) (dvd_of_eq_sub hb ha (by omega : b - a = b - o - (a - o)))
    omega

/-- start and end + 1s on the grid from `o`, at least a step long: what `ExpandRangesEnd` makes of runs of grid samples -/
def AlignedTo (o step : Int) (x : MTR) : Prop := step ∣ (x.s - o) ∧ step ∣ (x.e + 1 - o) ∧ x.s + step ≤ x.e + 1

def Disjoint (x y : MTR) : Prop := x.e < y.s ∨ y.e < x.s

theorem fam_of_aligned (o step : Int) (hs : 1 ≤ step) (fp : Nat) (l : List MTR)
    (hfp : ∀ x ∈ l, x.fp = fp) (hal : ∀ x ∈ l, AlignedTo o step x) (hd : l.Pairwise Disjoint) : Fam step fp l := by
  have key : ∀ x ∈ l, ∀ y ∈ l, x.e < y.s → y.s = x.e + 1 ∨ x.e + step < y.s := by
    intro x hx y hy hlt
    have := grid_gap o step (x.e + 1) y.s (hal x hx).2.1 (hal y hy).1 (by omega)
    omega
  refine ⟨?_, ?_, ?_⟩
  · intro x hx
    have := (hal x hx).2.2
    exact ⟨hfp x hx, by omega⟩
  · refine hd.imp_of_mem ?_
    intro x y hx hy hxy
    have lx := (hal x hx).2.2
    have ly := (hal y hy).2.2
    unfold Disjoint at hxy
    unfold Rel
    rcases hxy with h | h
    · have := key x hx y hy h; omega
    · have := key y hy x hx h; omega
  · intro x hx y hy z hz hxy hyz
    -- `y`, at least a step long, lies between the two
    have ly := (hal y hy).2.2
    have lz := (hal z hz).2.2
    have d1 := pairwise_of_mem Or.symm hd hx hy (by intro e; subst e; omega)
    have d2 := pairwise_of_mem Or.symm hd hy hz (by intro e; subst e; omega)
    unfold Disjoint at d1 d2
    omega

def OnGrid (o step : Int) (ts : List Int) : Prop := (∀ u ∈ ts, step ∣ (u - o)) ∧ ts.Pairwise (· < ·)

/-- `Inv` on the grid from `o`: at least two steps between runs -/
structure RunsInv (o step : Int) (acc : List (Int × Int)) : Prop where
  pts : ∀ p ∈ acc, p.1 ≤ p.2 ∧ step ∣ (p.1 - o) ∧ step ∣ (p.2 - o)
  sep : acc.Pairwise fun p q => q.2 + 2 * step ≤ p.1

theorem fold_inv (o step : Int) (hs : 1 ≤ step) (ts : List Int) :
    ∀ acc, RunsInv o step acc → OnGrid o step ts → (∀ p ∈ acc, ∀ u ∈ ts, p.2 < u) →
      RunsInv o step (ts.foldl (addRun step) acc) ∧
      (∀ t', pcov step (ts.foldl (addRun step) acc) t' ↔ pcov step acc t' ∨ ∃ u ∈ ts, u ≤ t' ∧ t' ≤ u + step - 1) ∧
      (∀ p ∈ ts.foldl (addRun step) acc, (p.1 ∈ ts ∨ ∃ q ∈ acc, p.1 = q.1) ∧ (p.2 ∈ ts ∨ ∃ q ∈ acc, p.2 = q.2)) := by
  intro acc h hg hlt
  obtain ⟨g1, g2, _⟩ := fold_asc step ts acc ⟨fun p hp => (h.pts p hp).1, h.sep.imp fun h => by omega⟩ hg.2 hlt
  have grid := fold_ends step (step ∣ · - o) (step ∣ · - o) ts acc (fun u hu => ⟨hg.1 u hu, hg.1 u hu⟩) fun q hq => (h.pts q hq).2
  refine ⟨⟨fun p hp => ⟨g1.wf p hp, grid p hp⟩, g1.sep.imp_of_mem fun {p q} hp hq hpq => ?_⟩, g2,
    fold_ends step (fun u => u ∈ ts ∨ ∃ q ∈ acc, u = q.1) (fun u => u ∈ ts ∨ ∃ q ∈ acc, u = q.2) ts acc
      (fun u hu => ⟨.inl hu, .inl hu⟩) fun q hq => ⟨.inr ⟨q, hq, rfl⟩, .inr ⟨q, hq, rfl⟩⟩⟩
  -- more than a step apart on the grid is at least two steps apart
  have := grid_gap o step (q.2 + step) p.1 (dvd_of_eq_add (grid q hq).2 (Int.dvd_refl _) (by omega)) (grid p hp).1 (by omega)
  omega

def outRuns (step : Int) (fp : Nat) (ts : List Int) : List MTR := expandEnds step ((runs step ts).map (mk fp))

def stretch (step : Int) (fp : Nat) (p : Int × Int) : MTR := ⟨fp, p.1, p.2 + (step - 1)⟩

theorem outRuns_eq (step : Int) (fp : Nat) (ts : List Int) :
    outRuns step fp ts = ((ts.foldl (addRun step) []).reverse).map (stretch step fp) := by
  simp [outRuns, expandEnds, runs, mk, stretch, List.map_map, Function.comp_def]

/-- `x.s` and `x.e - (step - 1)` are the first and the last sample of the run -/
theorem outRuns_facts (o step : Int) (hs : 1 ≤ step) (fp : Nat) (ts : List Int) (hg : OnGrid o step ts) :
    (∀ x ∈ outRuns step fp ts, x.fp = fp ∧ AlignedTo o step x ∧ x.s ∈ ts ∧ x.e - (step - 1) ∈ ts) ∧
    (outRuns step fp ts).Pairwise Disjoint ∧
    (∀ t, covered (outRuns step fp ts) t ↔ ∃ u ∈ ts, u ≤ t ∧ t ≤ u + step - 1) ∧
    Canon step fp (outRuns step fp ts) := by
  obtain ⟨inv, cov, ends⟩ := fold_inv o step hs ts [] ⟨by simp, by simp⟩ hg (by simp)
  simp only [pcov, List.not_mem_nil, false_and, exists_false, false_or, or_false] at cov ends
  rw [outRuns_eq]
  have hpts : ∀ p ∈ (ts.foldl (addRun step) []).reverse, _ := fun p hp => inv.pts p (List.mem_reverse.mp hp)
  have hord : (((ts.foldl (addRun step) []).reverse).map (stretch step fp)).Pairwise fun x y => x.s ≤ x.e ∧ x.e + step < y.s := by
    rw [List.pairwise_map]
    refine (List.pairwise_reverse.mpr inv.sep).imp_of_mem fun {q p} hq _ h => ?_
    have := (hpts q hq).1
    simp only [stretch]; omega
  refine ⟨List.forall_mem_map.mpr fun p hp => ?_, hord.imp fun h => .inl (by omega), fun t => ?_,
    List.forall_mem_map.mpr fun p hp => ⟨rfl, by have := (hpts p hp).1; simp only [stretch]; omega⟩,
    hord.imp fun h => by omega, hord.imp fun h => by rw [near_eq_false]; omega⟩
  · obtain ⟨h1, h2, h3⟩ := hpts p hp
    obtain ⟨e1, e2⟩ := ends p (List.mem_reverse.mp hp)
    refine ⟨rfl, ⟨h2, dvd_of_eq_add h3 (Int.dvd_refl _) (by simp only [stretch]; omega), by simp only [stretch]; omega⟩, e1, ?_⟩
    rwa [show (stretch step fp p).e - (step - 1) = p.2 by simp only [stretch]; omega]
  · rw [← cov t]
    simp only [covered, List.mem_map, List.mem_reverse, stretch]
    constructor
    · rintro ⟨_, ⟨p, hp, rfl⟩, h1, h2⟩
      exact ⟨p, hp, h1, by simp only at h2; omega⟩
    · rintro ⟨p, hp, h1, h2⟩
      exact ⟨_, ⟨p, hp, rfl⟩, h1, by simp only; omega⟩

theorem steps_of_dvd (step d : Int) (hs : 1 ≤ step) (hd : step ∣ d) (h0 : 0 ≤ d) : ∃ k : Nat, d = (k : Int) * step :=
  ⟨(d / step).toNat, by rw [Int.toNat_of_nonneg (Int.ediv_nonneg h0 (by omega)), Int.ediv_mul_cancel hd]⟩

theorem gs_mem {present : Int → Bool} {s e step : Int} (hs : 1 ≤ step) {u : Int} :
    u ∈ gridSamples present s e step ↔ s ≤ u ∧ u ≤ e ∧ step ∣ (u - s) ∧ present u = true := by
  have count : ∀ k : Nat, k < ((e - s) / step + 1).toNat ↔ s + (k : Int) * step ≤ e := fun k => by
    have := @Int.le_ediv_iff_mul_le k (e - s) step (by omega)
    omega
  simp only [gridSamples, List.mem_filterMap, List.mem_range, count, Option.ite_none_right_eq_some, Option.some.injEq]
  constructor
  · rintro ⟨k, hk, hp, rfl⟩
    have : (0 : Int) ≤ (k : Int) * step := Int.mul_nonneg (by omega) (by omega)
    exact ⟨by omega, hk, ⟨k, by rw [Int.mul_comm]; omega⟩, hp⟩
  · rintro ⟨h1, h2, h3, hp⟩
    obtain ⟨k, hk⟩ := steps_of_dvd step (u - s) hs h3 (by omega)
    exact ⟨k, by omega, by rwa [show s + (k : Int) * step = u by omega], by omega⟩

theorem SlicesOK.mem_grid {o step end_ : Int} {slices : List TR} (ok : SlicesOK o step end_ slices) (hs : 1 ≤ step)
    (present : Int → Bool) (u : Int) :
    u ∈ gridSamples present o end_ step ↔ ∃ sl ∈ slices, u ∈ gridSamples present sl.s sl.e step := by
  simp only [gs_mem hs]
  constructor
  · rintro ⟨h1, h2, h3, hpres⟩
    obtain ⟨k, hk⟩ := steps_of_dvd step (u - o) hs h3 (by omega)
    obtain ⟨sl, hsl, hs1, hs2⟩ := ok.covers k (by omega)
    exact ⟨sl, hsl, by omega, by omega, dvd_of_eq_sub h3 (ok.aligned sl hsl) (by omega), hpres⟩
  · rintro ⟨sl, hsl, h1, h2, h3, hpres⟩
    have := ok.within sl hsl
    exact ⟨by omega, by omega, dvd_of_eq_add h3 (ok.aligned sl hsl) (by omega), hpres⟩

theorem gs_pairwise (present : Int → Bool) (s e step : Int) (hs : 1 ≤ step) :
    (gridSamples present s e step).Pairwise (· < ·) := by
  unfold gridSamples
  rw [List.pairwise_filterMap]
  refine List.pairwise_lt_range.imp fun {a b} hab u hu v hv => ?_
  simp only [Option.ite_none_right_eq_some, Option.some.injEq] at hu hv
  have := Int.mul_le_mul_of_nonneg_right (show (a : Int) + 1 ≤ b by omega) (show (0 : Int) ≤ step by omega)
  rw [Int.add_mul] at this
  omega

theorem gs_ongrid (present : Int → Bool) (o s e step : Int) (hs : 1 ≤ step) (ho : step ∣ (s - o)) :
    OnGrid o step (gridSamples present s e step) :=
  ⟨fun u hu => dvd_of_eq_add ((gs_mem hs).mp hu).2.2.1 ho (by omega), gs_pairwise present s e step hs⟩

theorem SlicesOK.fam {o step end_ : Int} {slices : List TR} (ok : SlicesOK o step end_ slices) (hs : 1 ≤ step) (fp : Nat)
    (present : Int → Bool) : Fam step fp (slices.flatMap fun sl => outRuns step fp (gridSamples present sl.s sl.e step)) := by
  have facts := fun sl (hsl : sl ∈ slices) =>
    outRuns_facts o step hs fp _ (gs_ongrid present o sl.s sl.e step hs (ok.aligned sl hsl))
  refine fam_of_aligned o step hs fp _ (List.forall_mem_flatMap.mpr fun sl hsl x hx => ((facts sl hsl).1 x hx).1)
    (List.forall_mem_flatMap.mpr fun sl hsl x hx => ((facts sl hsl).1 x hx).2.1)
    (List.pairwise_flatMap.mpr ⟨fun sl hsl => (facts sl hsl).2.1, ok.ordered.imp_of_mem fun {a b} ha hb hab x hx y hy => ?_⟩)
  -- the last sample of `x` is not after `a.e`, the first of `y` not before `b.s`, both on the grid
  obtain ⟨_, ax, _, xe⟩ := (facts a ha).1 x hx
  obtain ⟨_, ay, ys, _⟩ := (facts b hb).1 y hy
  have := ((gs_mem hs).mp xe).2.1
  have := ((gs_mem hs).mp ys).1
  have := grid_gap o step (x.e + 1 - step) y.s (dvd_of_eq_sub ax.2.1 (Int.dvd_refl _) (by omega)) ay.1 (by omega)
  exact .inl (by omega)

theorem sliceRanges_eq (step : Int) (hs : 1 ≤ step) (fp : Nat) (present : Int → Bool) (sl : TR) :
    sliceRanges step fp present sl = outRuns step fp (gridSamples present sl.s sl.e step) :=
  congrArg (expandEnds step) ((fold_asc step _ [] ⟨by simp, .nil⟩ (gs_pairwise present sl.s sl.e step hs) (by simp)).2.2 fp)

end Pint.Props.C13

