/-
  From one inner-loop step to the whole of MergeRanges: a pass (`mergePass_spec`), the recursion on merged output and
  the `for ok` loop with their fuel (`rec_spec`, `loop_of_rec`), the final sort; the result is canonical and a set of
  seconds has at most one canonical list (`canon_unique`), so the order of arrival does not matter.
-/
import PintModel.Props.C13.Family
namespace Pint.Props.C13
open Pint.Range

/-- a pass in which nothing merges: no source range is near anything that came before it -/
def Quiet (step : Int) : List MTR → List MTR → Prop
  | _, [] => True
  | acc, src :: rest => (∀ a ∈ acc, near a src step = false) ∧ Quiet step (acc ++ [src]) rest

/-- one pass over `l` behind the accumulated `acc`, on a family.  The fourth conjunct bounds the recursion (`rec_spec`),
the sixth makes its end a fixpoint (`pass_fix`). -/
theorem mergePass_spec (step : Int) (hs : 1 ≤ step) (fp : Nat) (l : List MTR) :
    ∀ acc : List MTR, Fam step fp (acc ++ l) →
      Fam step fp (mergePass step l acc).1 ∧
      (∀ t, covered (mergePass step l acc).1 t ↔ covered (acc ++ l) t) ∧
      (mergePass step l acc).1.length ≤ (acc ++ l).length ∧
      ((mergePass step l acc).2 = true → (mergePass step l acc).1.length < (acc ++ l).length) ∧
      ((mergePass step l acc).2 = false → (mergePass step l acc).1 = acc ++ l) ∧
      ((mergePass step l acc).2 = false ↔ Quiet step acc l) := by
  induction l with
  | nil =>
    intro acc h
    have h' : Fam step fp acc := by simpa using h
    simp [mergePass, Quiet, h']
  | cons src rest ih =>
    intro acc h
    have habs := h.absorb_map (by omega)
    have hq : (acc.any fun m => near m src step) = false ↔ ∀ a ∈ acc, near a src step = false := by
      simp [List.any_eq_false]
    cases hf : (acc.any fun m => near m src step) with
    | true =>
      -- something merged: the pass goes on with the updated list, one range shorter than what it stands for
      obtain ⟨i1, i2, i3, i4, i5, i6⟩ := ih (acc.map (gmap step src)) (fam_step hs h)
      have e : mergePass step (src :: rest) acc = ((mergePass step rest (acc.map (gmap step src))).1, true) := by
        simp [mergePass, habs, hf]
      rw [e]
      simp only [List.length_append, List.length_map, List.length_cons] at i3 ⊢
      refine ⟨i1, fun t => (i2 t).trans (cov_step hs h hf t), by omega, fun _ => by omega, by simp, ?_⟩
      simp [Quiet, ← hq, hf]
    | false =>
      obtain ⟨i1, i2, i3, i4, i5, i6⟩ := ih (acc ++ [src]) (by simpa using h)
      have e : mergePass step (src :: rest) acc = mergePass step rest (acc ++ [src]) := by
        simp [mergePass, habs, hf]
      rw [List.append_assoc, List.singleton_append] at i2 i3 i4 i5
      exact e ▸ ⟨i1, i2, i3, i4, i5, i6.trans (and_iff_right (hq.mp hf)).symm⟩

/-- a fixpoint of MergeRanges -/
def NoNear (step : Int) (l : List MTR) : Prop := l.Pairwise fun a b => near a b step = false

theorem quiet_iff (step : Int) (acc l : List MTR) :
    Quiet step acc l ↔ ((∀ a ∈ acc, ∀ b ∈ l, near a b step = false) ∧ NoNear step l) := by
  fun_induction Quiet step acc l with
  | case1 => simp [NoNear]
  | case2 acc src rest ih =>
    simp only [ih, NoNear, List.pairwise_cons, List.mem_append, List.mem_cons, List.not_mem_nil, or_false,
      or_imp, forall_and, forall_eq, and_assoc]

theorem insertSorted_perm (r : MTR) (l : List MTR) : (insertSorted r l).Perm (r :: l) := by
  fun_induction insertSorted r l with
  | case1 => exact .refl _
  | case2 => exact .refl _
  | case3 x rest _ ih => exact (ih.cons x).trans (.swap r x rest)

theorem sortByStart_perm : ∀ l : List MTR, (sortByStart l).Perm l
  | [] => .refl _
  | x :: rest => (insertSorted_perm x _).trans ((sortByStart_perm rest).cons x)

theorem insertSorted_sorted (r : MTR) (l : List MTR) (h : l.Pairwise fun a b => a.s ≤ b.s) :
    (insertSorted r l).Pairwise fun a b => a.s ≤ b.s := by
  fun_induction insertSorted r l with
  | case1 => simp
  | case2 x rest hle =>
    exact List.pairwise_cons.mpr ⟨List.forall_mem_cons.mpr ⟨hle, fun a ha => Int.le_trans hle (List.rel_of_pairwise_cons h ha)⟩, h⟩
  | case3 x rest hle ih =>
    obtain ⟨hx, hrest⟩ := List.pairwise_cons.mp h
    refine List.pairwise_cons.mpr ⟨fun a ha => ?_, ih hrest⟩
    rcases List.mem_cons.mp ((insertSorted_perm r rest).subset ha) with rfl | ha'
    · omega
    · exact hx a ha'

theorem sortByStart_sorted : ∀ l : List MTR, (sortByStart l).Pairwise fun a b => a.s ≤ b.s
  | [] => .nil
  | x :: rest => insertSorted_sorted x _ (sortByStart_sorted rest)

theorem NoNear.perm {step : Int} {F G : List MTR} (h : NoNear step F) (p : F.Perm G) : NoNear step G :=
  List.Pairwise.perm h p (fun {x y} hxy => by rw [near_comm]; exact hxy)

/-- `y` is a fixpoint of MergeRanges reached from `l` -/
structure Good (step : Int) (fp : Nat) (l y : List MTR) : Prop where
  fam : Fam step fp y
  fix : NoNear step y
  cov : ∀ t, covered y t ↔ covered l t
  len : y.length ≤ l.length

theorem Good.refl {step : Int} {fp : Nat} {l : List MTR} (h : Fam step fp l) (hn : NoNear step l) : Good step fp l l :=
  ⟨h, hn, fun _ => Iff.rfl, Nat.le_refl _⟩

theorem Good.mono {step : Int} {fp : Nat} {l m y : List MTR} (h : Good step fp m y) (cov : ∀ t, covered m t ↔ covered l t)
    (len : m.length ≤ l.length) : Good step fp l y :=
  ⟨h.fam, h.fix, fun t => (h.cov t).trans (cov t), Nat.le_trans h.len len⟩

theorem Good.sort {step : Int} {fp : Nat} {l y : List MTR} (h : Good step fp l y) : Good step fp l (sortByStart y) :=
  have p := sortByStart_perm y
  ⟨h.fam.perm p.symm, h.fix.perm p.symm, fun t => (covered_perm p t).trans (h.cov t), by rw [p.length_eq]; exact h.len⟩

theorem pass_fix (step : Int) (hs : 1 ≤ step) (fp : Nat) (l : List MTR) (h : Fam step fp l) :
    (mergePass step l []).2 = false ↔ NoNear step l := by
  obtain ⟨_, _, _, _, _, i6⟩ := mergePass_spec step hs fp l [] (by simpa using h)
  rw [i6, quiet_iff]; simp

/-- `mergeRec` with fuel `f` is right on families of at most `f` ranges: a pass that merges returns a shorter list
(`mergePass_spec`), so the recursion on its output gets by with one less.  `mergeSeries` starts with `length + 1`. -/
def RecSpec (step : Int) (fp : Nat) (f : Nat) : Prop :=
  ∀ l, Fam step fp l → l.length ≤ f → Good step fp l (mergeRec step f l).1

/-- the `for ok` loop around `mergeRec`.  One call of `mergeRec` already returns a fixpoint (`Good.fix`), so any `k ≥ 1`
will do, and the loop arrives at `k = 0` only with a fixpoint in hand: the disjunction below. -/
theorem loop_of_rec (step : Int) (fp : Nat) (f : Nat) (hrec : RecSpec step fp f) :
    ∀ k l, Fam step fp l → l.length ≤ f → (0 < k ∨ NoNear step l) → Good step fp l (mergeLoop step f k l) := by
  intro k
  induction k with
  | zero =>
    intro l h hl hk
    rcases hk with hk | hk
    · omega
    · rw [mergeLoop]; exact Good.refl h hk
  | succ k ih =>
    intro l h hl _
    have g := hrec l h hl
    rw [mergeLoop]
    simp only
    split
    · exact (ih _ g.fam (Nat.le_trans g.len hl) (Or.inr g.fix)).mono g.cov g.len
    · exact g

theorem rec_spec (step : Int) (hs : 1 ≤ step) (fp : Nat) : ∀ f, RecSpec step fp f := by
  intro f
  induction f with
  | zero =>
    intro l h hl
    have : l = [] := List.length_eq_zero_iff.mp (Nat.le_zero.mp hl)
    subst this
    rw [mergeRec]
    exact Good.refl h (by simp [NoNear])
  | succ f ih =>
    intro l h hl
    have spec := mergePass_spec step hs fp l [] (by simpa using h)
    have pf := pass_fix step hs fp l h
    rw [mergeRec]
    rcases hp : mergePass step l [] with ⟨out, merged⟩
    rw [hp] at spec pf
    simp only [List.nil_append] at spec pf ⊢
    obtain ⟨i1, i2, i3, i4, _, _⟩ := spec
    cases merged with
    | true =>
      have hlen : out.length ≤ f := by have := i4 rfl; omega
      have gl := loop_of_rec step fp f ih (out.length + 1) out i1 hlen (Or.inl (by omega))
      simpa using (gl.mono i2 i3).sort
    | false =>
      simpa using Good.refl h (pf.mp rfl)

/-- the canonical list of presence ranges of one series: sorted by start, every two more than a step apart -/
structure Canon (step : Int) (fp : Nat) (R : List MTR) : Prop where
  wf : ∀ x ∈ R, x.fp = fp ∧ x.s ≤ x.e
  sorted : R.Pairwise fun a b => a.s ≤ b.s
  apart : NoNear step R

theorem Canon.tail {step : Int} {fp : Nat} {a : MTR} {A : List MTR} (h : Canon step fp (a :: A)) : Canon step fp A :=
  ⟨fun x hx => h.wf x (List.mem_cons_of_mem _ hx), (List.pairwise_cons.mp h.sorted).2, (List.pairwise_cons.mp h.apart).2⟩

theorem Canon.head_before {step : Int} (hs : 1 ≤ step) {fp : Nat} {a : MTR} {A : List MTR} (h : Canon step fp (a :: A)) :
    ∀ x ∈ A, a.e + step < x.s := by
  intro x hx
  have h1 := (List.pairwise_cons.mp h.sorted).1 x hx
  have h2 := (List.pairwise_cons.mp h.apart).1 x hx
  have wx := (h.wf x (List.mem_cons_of_mem _ hx)).2
  rw [near_eq_false] at h2
  omega

theorem Canon.covers_head {step : Int} {fp : Nat} {a : MTR} {A : List MTR} (h : Canon step fp (a :: A)) :
    covered (a :: A) a.s :=
  ⟨a, List.mem_cons_self, Int.le_refl _, (h.wf a List.mem_cons_self).2⟩

theorem canon_head_start {step : Int} {fp : Nat} {a b : MTR} {A B : List MTR}
    (h1 : Canon step fp (a :: A)) (h2 : Canon step fp (b :: B))
    (hc : ∀ t, covered (a :: A) t → covered (b :: B) t) : b.s ≤ a.s := by
  rcases (covered_cons ..).mp (hc a.s h1.covers_head) with h | ⟨y, hy, hy1, _⟩
  · exact h.1
  · have := (List.pairwise_cons.mp h2.sorted).1 y hy
    omega

theorem canon_head_end {step : Int} (hs : 1 ≤ step) {fp : Nat} {a b : MTR} {A B : List MTR}
    (h1 : Canon step fp (a :: A)) (hst : a.s = b.s)
    (hc : ∀ t, covered (b :: B) t → covered (a :: A) t) : b.e ≤ a.e := by
  have wa := (h1.wf a (List.mem_cons_self ..)).2
  by_cases hlt : a.e < b.e
  · rcases (covered_cons ..).mp (hc (a.e + 1) ⟨b, List.mem_cons_self .., by omega, by omega⟩) with h | ⟨x, hx, hx1, _⟩
    · omega
    · have := h1.head_before hs x hx
      omega
  · omega

theorem canon_tail_cov {step : Int} (hs : 1 ≤ step) {fp : Nat} {a : MTR} {A B : List MTR} (h1 : Canon step fp (a :: A))
    (hc : ∀ t, covered (a :: A) t → covered (a :: B) t) (t : Int) : covered A t → covered B t := by
  rintro ⟨x, hx, hx1, hx2⟩
  rcases (covered_cons ..).mp (hc t ⟨x, List.mem_cons_of_mem _ hx, hx1, hx2⟩) with h | h
  · have := h1.head_before hs x hx; omega
  · exact h

theorem canon_unique (step : Int) (hs : 1 ≤ step) (fp : Nat) :
    ∀ R₁ R₂ : List MTR, Canon step fp R₁ → Canon step fp R₂ → (∀ t, covered R₁ t ↔ covered R₂ t) → R₁ = R₂
  | [], [], _, _, _ => rfl
  | [], b :: B, _, h2, hc => by
    obtain ⟨x, hx, _⟩ := (hc b.s).mpr h2.covers_head
    simp at hx
  | a :: A, [], h1, _, hc => by
    obtain ⟨x, hx, _⟩ := (hc a.s).mp h1.covers_head
    simp at hx
  | a :: A, b :: B, h1, h2, hc => by
    have wa := h1.wf a List.mem_cons_self
    have wb := h2.wf b List.mem_cons_self
    have s1 := canon_head_start h1 h2 (fun t => (hc t).mp)
    have s2 := canon_head_start h2 h1 (fun t => (hc t).mpr)
    have hst : a.s = b.s := by omega
    have e1 := canon_head_end hs h1 hst (fun t => (hc t).mpr)
    have e2 := canon_head_end hs h2 hst.symm (fun t => (hc t).mp)
    obtain rfl : a = b := by
      cases a; cases b; simp only [MTR.mk.injEq] at *
      exact ⟨wa.1.trans wb.1.symm, hst, by omega⟩
    rw [canon_unique step hs fp A B h1.tail h2.tail fun t =>
      ⟨canon_tail_cov hs h1 (fun t => (hc t).mp) t, canon_tail_cov hs h2 (fun t => (hc t).mpr) t⟩]

/-- **MergeRanges reaches the canonical list** of any family (what the slices of a range query hand over:
`fam_of_aligned`), in whatever order its ranges come, and covers exactly the seconds the input covered. -/
theorem mergeSeries_canon (step : Int) (hs : 1 ≤ step) (fp : Nat) (l : List MTR) (h : Fam step fp l) :
    Canon step fp (mergeSeries step l) ∧ ∀ t, covered (mergeSeries step l) t ↔ covered l t := by
  have g := (rec_spec step hs fp (l.length + 1) l h (Nat.le_succ _)).sort
  unfold mergeSeries
  exact ⟨⟨g.fam.wf, sortByStart_sorted _, g.fix⟩, g.cov⟩

/-- **The result does not depend on the order in which the ranges arrive.** -/
theorem merge_order_independent (step : Int) (hs : 1 ≤ step) (fp : Nat) (l₁ l₂ : List MTR) (h : Fam step fp l₁)
    (p : l₁.Perm l₂) : mergeSeries step l₁ = mergeSeries step l₂ := by
  obtain ⟨c1, v1⟩ := mergeSeries_canon step hs fp l₁ h
  obtain ⟨c2, v2⟩ := mergeSeries_canon step hs fp l₂ (h.perm p)
  exact canon_unique step hs fp _ _ c1 c2 (fun t => (v1 t).trans ((covered_perm p t).trans (v2 t).symm))

/-- **Exactly the canonical ranges.** Whatever canonical list covers the same seconds as the input (the runs of the
unsliced evaluation, for one) is what MergeRanges returns. -/
theorem merge_is_canonical (step : Int) (hs : 1 ≤ step) (fp : Nat) (l R : List MTR) (h : Fam step fp l)
    (hR : Canon step fp R) (hc : ∀ t, covered R t ↔ covered l t) : mergeSeries step l = R := by
  obtain ⟨c1, v1⟩ := mergeSeries_canon step hs fp l h
  exact canon_unique step hs fp _ _ c1 hR (fun t => (v1 t).trans (hc t).symm)

/-! ## Two ranges through `mergeSeries`

The property for two ranges, by evaluation; `C13_holds` does not go through these. -/

/-- a run crossing a slice boundary, after `ExpandRangesEnd` -/
def Adjacent (a b : MTR) : Prop := a.fp = b.fp ∧ a.s ≤ a.e ∧ b.s ≤ b.e ∧ b.s = a.e + 1
/-- a missing sample lies between them -/
def Separated (a b : MTR) (step : Int) : Prop := a.s ≤ a.e ∧ b.s ≤ b.e ∧ a.e + step < b.s

theorem overlaps_adjacent (a b : MTR) (step : Int) (hs : 1 ≤ step) (h : Adjacent a b) :
    overlaps a b step = some ⟨a.s, b.e⟩ ∧ overlaps b a step = some ⟨a.s, b.e⟩ := by
  obtain ⟨hfp, ha, hb, hab⟩ := h
  have n1 : near a b step = true := by rw [near_iff]; omega
  have n2 : near b a step = true := by rw [near_iff]; omega
  rw [overlaps_stair a b step (by omega) hfp ha hb (.inl (by omega)),
    overlaps_stair b a step (by omega) hfp.symm hb ha (.inr (by omega)), n1, n2]
  simp only [↓reduceIte, Option.some.injEq, TR.mk.injEq]
  omega

theorem overlaps_far {a b : MTR} {step : Int} (hs : 0 ≤ step) (ha : a.s ≤ a.e) (hb : b.s ≤ b.e)
    (h : near a b step = false) : overlaps a b step = none := by
  rw [overlaps_eq, if_neg]
  exact fun hm => by rw [hm.2.near hs ha hb] at h; cases h

theorem overlaps_separated (a b : MTR) (step : Int) (hs : 0 ≤ step) (h : Separated a b step) :
    overlaps a b step = none ∧ overlaps b a step = none := by
  obtain ⟨ha, hb, hab⟩ := h
  constructor <;> refine overlaps_far hs ‹_› ‹_› ?_ <;> rw [near_eq_false] <;> omega

theorem mergeRec_single (step : Int) (f : Nat) (x : MTR) : mergeRec step f [x] = ([x], false) := by
  cases f with
  | zero => simp [mergeRec]
  | succ f => simp [mergeRec, mergePass, absorb]

/-- a run that crosses a slice boundary comes back as ONE range, whichever slice answered first -/
theorem merge_two_adjacent (a b : MTR) (step : Int) (hs : 1 ≤ step) (h : Adjacent a b) :
    mergeSeries step [a, b] = [⟨a.fp, a.s, b.e⟩] ∧ mergeSeries step [b, a] = [⟨a.fp, a.s, b.e⟩] := by
  obtain ⟨h1, h2⟩ := overlaps_adjacent a b step hs h
  have hfp := h.1
  constructor
  · simp [mergeSeries, mergeRec, mergePass, absorb, h1, mergeLoop, mergeRec_single, sortByStart, insertSorted]
  · simp [mergeSeries, mergeRec, mergePass, absorb, h2, mergeLoop, mergeRec_single, sortByStart, insertSorted, hfp]

/-- a missing sample keeps two ranges apart, whichever slice answered first; the result is sorted -/
theorem merge_two_separated (a b : MTR) (step : Int) (hs : 0 ≤ step) (h : Separated a b step) :
    mergeSeries step [a, b] = [a, b] ∧ mergeSeries step [b, a] = [a, b] := by
  obtain ⟨h1, h2⟩ := overlaps_separated a b step hs h
  obtain ⟨ha, hb, hab⟩ := h
  have hlt : ¬ b.s ≤ a.s := by omega
  have hle : a.s ≤ b.s := by omega
  constructor
  · simp [mergeSeries, mergeRec, mergePass, absorb, h1, sortByStart, insertSorted, hle]
  · simp [mergeSeries, mergeRec, mergePass, absorb, h2, sortByStart, insertSorted, hlt]

end Pint.Props.C13
