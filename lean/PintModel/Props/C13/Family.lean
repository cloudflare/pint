/-
  The invariant of MergeRanges on the ranges a range query hands it (`Fam`), and what one source range going through
  the inner loop does to it: the loop is a `map` (`absorb_eq`), the invariant is kept (`fam_step`), and when anything
  merged the covered seconds are the same (`cov_step`).
-/
import PintModel.Props.C13.Overlaps
namespace Pint.Props.C13
open Pint.Range

/-- every two ranges of a family: strictly ordered in both coordinates, and either touching (no uncovered second between
them) or more than a step apart -/
def Rel (step : Int) (x y : MTR) : Prop :=
  (x.s < y.s ∧ x.e < y.e ∧ (y.s ≤ x.e + 1 ∨ x.e + step < y.s)) ∨
  (y.s < x.s ∧ y.e < x.e ∧ (x.s ≤ y.e + 1 ∨ y.e + step < x.s))

/-- with a range starting strictly between them, two ranges are more than a step apart -/
def F2 (step : Int) (x y z : MTR) : Prop := x.s < y.s → y.s < z.s → x.e + step < z.s

/-- `x'` is what the inner loop of MergeRanges made of `x` when `src` came by: untouched, or the hull -/
def Became (step : Int) (src x x' : MTR) : Prop :=
  (x'.s = x.s ∧ x'.e = x.e) ∨ (x.s ≤ src.e + step ∧ src.s ≤ x.e + step ∧ x'.s = min x.s src.s ∧ x'.e = max x.e src.e)

theorem rel_symm {step : Int} {x y : MTR} (h : Rel step x y) : Rel step y x := by
  unfold Rel at *; omega

theorem rel_irrefl (step : Int) (x : MTR) : ¬ Rel step x x := by
  unfold Rel; omega

/-- the update does not exchange two ranges: `Became` only lowers a start, and below that of an earlier range only
when `src` starts before both, where `u6` puts the later one more than a step after `src` -/
theorem order_kept (step : Int) (src x y x' y' : MTR)
    (rxy : Rel step x y) (hx : Became step src x x') (hy : Became step src y y')
    (u6 : F2 step src y x) (h : x'.s < y'.s) : x.s < y.s := by
  unfold F2 Rel Became at *
  omega

/-- the update keeps `F2`: `src` starts after `y` (`rys`), where `u1` puts it out of reach of `x`, or before `y`, where `w5`
puts `z` out of its reach -/
theorem far2_core (step : Int) (src x y z x' y' z' : MTR)
    (hxy : x.s < y.s) (hyz : y.s < z.s)
    (rxs : Rel step x src) (rys : Rel step y src) (rzs : Rel step z src)
    (hx : Became step src x x') (hz : Became step src z z')
    (t1 : F2 step x y z) (u1 : F2 step x y src) (w5 : F2 step src y z) :
    x'.e + step < z'.s := by
  unfold F2 Rel Became at *
  omega

/-- for a range in `Rel` with `src` the `min` / `max` of the hull are known: one that merged touches `src` on one side
and is stretched over it -/
theorem became_cases {step : Int} {src x x' : MTR} (r : Rel step x src) (h : Became step src x x') :
    (x'.s = x.s ∧ x'.e = x.e) ∨ (x.s < src.s ∧ src.s ≤ x.e + 1 ∧ x'.s = x.s ∧ x'.e = src.e) ∨
    (src.s < x.s ∧ x.s ≤ src.e + 1 ∧ x'.s = src.s ∧ x'.e = x.e) := by
  rcases h with h | ⟨n1, n2, p, q⟩
  · exact .inl h
  · rcases r with ⟨a, b, c⟩ | ⟨a, b, c⟩
    · exact .inr (.inl ⟨a, by omega, by omega, by omega⟩)
    · exact .inr (.inr ⟨a, by omega, by omega, by omega⟩)

/-- `u1`, `u5` are `F2 step x y src`, `F2 step src x y` with the premise `x.s < y.s` discharged -/
theorem rel_core_lt (step : Int) (hs : 1 ≤ step) (src x y x' y' : MTR)
    (a : x.s < y.s) (b : x.e < y.e) (c : y.s ≤ x.e + 1 ∨ x.e + step < y.s) (rxs : Rel step x src) (rys : Rel step y src)
    (hx : Became step src x x') (hy : Became step src y y')
    (u1 : y.s < src.s → x.e + step < src.s) (u5 : src.s < x.s → src.e + step < y.s) :
    x'.s < y'.s ∧ x'.e < y'.e ∧ (y'.s ≤ x'.e + 1 ∨ x'.e + step < y'.s) := by
  have hx' := became_cases rxs hx
  have hy' := became_cases rys hy
  unfold Rel at rxs rys
  omega

theorem rel_core (step : Int) (hs : 1 ≤ step) (src x y x' y' : MTR)
    (wx : x.s ≤ x.e) (wy : y.s ≤ y.e) (ws : src.s ≤ src.e)
    (rxy : Rel step x y) (rxs : Rel step x src) (rys : Rel step y src)
    (hx : Became step src x x') (hy : Became step src y y')
    (u1 : F2 step x y src) (u2 : F2 step x src y) (u3 : F2 step y x src) (u4 : F2 step y src x) (u5 : F2 step src x y) (u6 : F2 step src y x) :
    Rel step x' y' := by
  rcases rxy with ⟨a, b, c⟩ | ⟨a, b, c⟩
  · exact .inl (rel_core_lt step hs src x y x' y' a b c rxs rys hx hy (u1 a) (u5 · a))
  · exact .inr (rel_core_lt step hs src y x y' x' a b c rys rxs hy hx (u3 a) (u6 · a))

/-- what the inner loop of MergeRanges does to one accumulated range -/
def gmap (step : Int) (src m : MTR) : MTR :=
  if near m src step then { m with s := min m.s src.s, e := max m.e src.e } else m

theorem became_self (step : Int) (src m : MTR) : Became step src m m := Or.inl ⟨rfl, rfl⟩

theorem became_gmap (step : Int) (src m : MTR) : Became step src m (gmap step src m) := by
  fun_cases gmap step src m with
  | case1 h => exact .inr ⟨(near_iff.mp h).1, (near_iff.mp h).2, rfl, rfl⟩
  | case2 => exact became_self step src m

/-- ranges of one series, `s ≤ e` each, every two in `Rel` (on which `Overlaps` is symmetric and means `near`:
`overlaps_stair`), every three in `F2` -/
structure Fam (step : Int) (fp : Nat) (F : List MTR) : Prop where
  wf : ∀ x ∈ F, x.fp = fp ∧ x.s ≤ x.e
  rel : F.Pairwise (Rel step)
  far2 : ∀ x ∈ F, ∀ y ∈ F, ∀ z ∈ F, F2 step x y z

theorem pairwise_of_mem {α : Type} {R : α → α → Prop} (symm : ∀ {a b}, R a b → R b a) {l : List α} (h : l.Pairwise R)
    {x y : α} (hx : x ∈ l) (hy : y ∈ l) (hne : x ≠ y) : R x y := by
  induction l with
  | nil => simp at hx
  | cons a l ih =>
    rw [List.pairwise_cons] at h
    rcases List.mem_cons.mp hx with rfl | hx' <;> rcases List.mem_cons.mp hy with rfl | hy'
    · exact absurd rfl hne
    · exact h.1 y hy'
    · exact symm (h.1 x hx')
    · exact ih h.2 hx' hy'

theorem Fam.of_subset {step : Int} {fp : Nat} {F G : List MTR} (h : Fam step fp F) (sub : G ⊆ F)
    (rel : G.Pairwise (Rel step)) : Fam step fp G :=
  ⟨fun x hx => h.wf x (sub hx), rel, fun x hx y hy z hz => h.far2 x (sub hx) y (sub hy) z (sub hz)⟩

theorem Fam.perm {step : Int} {fp : Nat} {F G : List MTR} (h : Fam step fp F) (p : F.Perm G) : Fam step fp G :=
  h.of_subset p.symm.subset (h.rel.perm p rel_symm)

theorem Fam.sublist {step : Int} {fp : Nat} {F G : List MTR} (h : Fam step fp F) (p : G.Sublist F) : Fam step fp G :=
  h.of_subset p.subset (h.rel.sublist p)

theorem absorb_eq (step : Int) (hs : 0 ≤ step) (src : MTR) (hsrc : src.s ≤ src.e) (acc : List MTR)
    (h : ∀ m ∈ acc, m.fp = src.fp ∧ m.s ≤ m.e ∧ Rel step m src) :
    absorb step src acc = (acc.map (gmap step src), acc.any fun m => near m src step) := by
  induction acc with
  | nil => rfl
  | cons m rest ih =>
    obtain ⟨hfp, wm, r⟩ := h m List.mem_cons_self
    have ho := overlaps_stair m src step hs hfp wm hsrc (by unfold Rel at r; omega)
    simp only [absorb, ih fun x hx => h x (List.mem_cons_of_mem _ hx), ho, List.map_cons, List.any_cons, gmap]
    cases near m src step <;> rfl

theorem Fam.absorb_map {step : Int} (hs : 0 ≤ step) {fp : Nat} {acc rest : List MTR} {src : MTR}
    (h : Fam step fp (acc ++ src :: rest)) :
    absorb step src acc = (acc.map (gmap step src), acc.any fun m => near m src step) := by
  have ws := h.wf src (by simp)
  refine absorb_eq step hs src ws.2 acc fun m hm => ?_
  have wm := h.wf m (List.mem_append_left _ hm)
  exact ⟨wm.1.trans ws.1.symm, wm.2, (List.pairwise_append.mp h.rel).2.2 m hm src List.mem_cons_self⟩

theorem Fam.map_became {step : Int} (hs : 1 ≤ step) {fp : Nat} {src : MTR} {F : List MTR} (h : Fam step fp (src :: F))
    (u : MTR → MTR) (hu : ∀ x ∈ F, (u x).fp = x.fp ∧ Became step src x (u x)) : Fam step fp (F.map u) := by
  have msrc : src ∈ src :: F := List.mem_cons_self
  have mem : ∀ {x}, x ∈ F → x ∈ src :: F := List.mem_cons_of_mem _
  have rs : ∀ x ∈ F, Rel step x src := fun x hx => rel_symm ((List.pairwise_cons.mp h.rel).1 x hx)
  have f2 := fun {a b c} ha hb hc => h.far2 a ha b hb c hc
  refine ⟨?_, ?_, ?_⟩
  · refine List.forall_mem_map.mpr fun x hx => ?_
    have wx := h.wf x (mem hx)
    have hb := (hu x hx).2
    unfold Became at hb
    exact ⟨(hu x hx).1.trans wx.1, by omega⟩
  · rw [List.pairwise_map]
    refine (List.pairwise_cons.mp h.rel).2.imp_of_mem fun {x y} hx hy rxy => ?_
    exact rel_core step hs src x y _ _ (h.wf x (mem hx)).2 (h.wf y (mem hy)).2 (h.wf src msrc).2 rxy (rs x hx) (rs y hy)
      (hu x hx).2 (hu y hy).2 (f2 (mem hx) (mem hy) msrc) (f2 (mem hx) msrc (mem hy)) (f2 (mem hy) (mem hx) msrc)
      (f2 (mem hy) msrc (mem hx)) (f2 msrc (mem hx) (mem hy)) (f2 msrc (mem hy) (mem hx))
  · simp only [List.forall_mem_map]
    intro x hx y hy z hz hxy hyz
    -- `u` is a function, so ranges with different images are different ranges and `Rel` applies to them
    have rxy := pairwise_of_mem rel_symm h.rel (mem hx) (mem hy) (fun e => by subst e; omega)
    have ryz := pairwise_of_mem rel_symm h.rel (mem hy) (mem hz) (fun e => by subst e; omega)
    have oxy := order_kept step src x y _ _ rxy (hu x hx).2 (hu y hy).2 (f2 msrc (mem hy) (mem hx)) hxy
    have oyz := order_kept step src y z _ _ ryz (hu y hy).2 (hu z hz).2 (f2 msrc (mem hz) (mem hy)) hyz
    exact far2_core step src x y z _ (u y) _ oxy oyz (rs x hx) (rs y hy) (rs z hz) (hu x hx).2 (hu z hz).2
      (f2 (mem hx) (mem hy) (mem hz)) (f2 (mem hx) (mem hy) msrc) (f2 msrc (mem hy) (mem hz))

/-- also when nothing merged: this is then the family without the source -/
theorem fam_step {step : Int} (hs : 1 ≤ step) {fp : Nat} {acc rest : List MTR} {src : MTR}
    (h : Fam step fp (acc ++ src :: rest)) : Fam step fp (acc.map (gmap step src) ++ rest) := by
  -- the inner loop as one update of `acc ++ rest`: no range is in both parts, `Rel` being irreflexive
  let u := fun x => if x ∈ acc then gmap step src x else x
  have hd : ∀ b ∈ rest, b ∉ acc := fun b hb ha =>
    rel_irrefl step b ((List.pairwise_append.mp h.rel).2.2 b ha b (List.mem_cons_of_mem _ hb))
  have e : (acc ++ rest).map u = acc.map (gmap step src) ++ rest := by
    rw [List.map_append, List.map_congr_left fun a ha => if_pos ha,
      (List.map_congr_left fun b hb => if_neg (hd b hb)).trans (List.map_id' rest)]
  refine e ▸ (h.perm List.perm_middle).map_became hs u fun x _ => ?_
  by_cases hx : x ∈ acc
  · rw [show u x = gmap step src x from if_pos hx]
    exact ⟨by unfold gmap; split <;> rfl, became_gmap step src x⟩
  · rw [show u x = x from if_neg hx]
    exact ⟨rfl, became_self step src x⟩

def covered (F : List MTR) (t : Int) : Prop := ∃ x ∈ F, x.s ≤ t ∧ t ≤ x.e

theorem covered_append (A B : List MTR) (t : Int) : covered (A ++ B) t ↔ covered A t ∨ covered B t := by
  simp only [covered, List.mem_append, or_and_right, exists_or]

theorem covered_cons (x : MTR) (F : List MTR) (t : Int) : covered (x :: F) t ↔ (x.s ≤ t ∧ t ≤ x.e) ∨ covered F t := by
  simp [covered]

theorem covered_flatMap {α : Type} (f : α → List MTR) (l : List α) (t : Int) :
    covered (l.flatMap f) t ↔ ∃ a ∈ l, covered (f a) t := by
  simp only [covered, List.mem_flatMap]
  exact ⟨fun ⟨x, ⟨a, ha, hx⟩, h⟩ => ⟨a, ha, x, hx, h⟩, fun ⟨a, ha, x, hx, h⟩ => ⟨x, ⟨a, ha, hx⟩, h⟩⟩

theorem covered_perm {F G : List MTR} (p : F.Perm G) (t : Int) : covered F t ↔ covered G t :=
  ⟨fun ⟨x, hx, h⟩ => ⟨x, p.subset hx, h⟩, fun ⟨x, hx, h⟩ => ⟨x, p.symm.subset hx, h⟩⟩

theorem cov_step {step : Int} (hs : 1 ≤ step) {fp : Nat} {acc rest : List MTR} {src : MTR}
    (h : Fam step fp (acc ++ src :: rest)) (fired : (acc.any fun m => near m src step) = true) (t : Int) :
    covered (acc.map (gmap step src) ++ rest) t ↔ covered (acc ++ src :: rest) t := by
  obtain ⟨a0, ha0, hn0⟩ := List.any_eq_true.mp fired
  -- a range that is near `src` touches it (`Rel`), so its hull with `src` covers what the two cover
  have key : ∀ a ∈ acc, ((gmap step src a).s ≤ t ∧ t ≤ (gmap step src a).e) ↔
      (a.s ≤ t ∧ t ≤ a.e) ∨ (near a src step = true ∧ src.s ≤ t ∧ t ≤ src.e) := by
    intro a ha
    have r := (List.pairwise_append.mp h.rel).2.2 a ha src List.mem_cons_self
    unfold Rel at r
    unfold gmap
    cases hn : near a src step
    · simp
    · rw [near_iff] at hn
      simp only [if_true, true_and]
      omega
  rw [covered_append, covered_append, covered_cons]
  constructor
  · rintro (⟨x', hx', hc⟩ | hr)
    · obtain ⟨a, ha, rfl⟩ := List.mem_map.mp hx'
      rcases (key a ha).mp hc with h1 | h1
      · exact .inl ⟨a, ha, h1⟩
      · exact .inr (.inl h1.2)
    · exact .inr (.inr hr)
  · rintro (⟨a, ha, hc⟩ | hsrc | hr)
    · exact .inl ⟨_, List.mem_map_of_mem ha, (key a ha).mpr (.inl hc)⟩
    · exact .inl ⟨_, List.mem_map_of_mem ha0, (key a0 ha0).mpr (.inr ⟨hn0, hsrc⟩)⟩
    · exact .inr hr

end Pint.Props.C13
