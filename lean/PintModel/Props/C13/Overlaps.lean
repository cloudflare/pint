/-
  What `Overlaps` (range_normalize.go) decides for two ranges of one series, in closed form: the hull of the two,
  exactly when one of its nine conditions holds (`overlaps_eq`).  The conditions are not symmetric and do not cover
  every pair of ranges that touch; for ranges strictly ordered in both coordinates they amount to "not more than a step
  apart" (`overlaps_stair`), which is all the merge proof needs.
-/
import PintModel.Model.Range
namespace Pint.Props.C13
open Pint.Range

theorem iabs_le (x k : Int) : iabs x ≤ k ↔ (-k ≤ x ∧ x ≤ k) := by
  unfold iabs; split <;> omega

/-- the nine conditions of `Overlaps`, in source order -/
def Merges (a b : MTR) (step : Int) : Prop :=
  (iabs (a.s - b.s) ≤ step ∧ iabs (a.e - b.e) ≤ step) ∨
  (a.s < b.s ∧ a.e > b.s ∧ a.e < b.e) ∨
  (a.s > b.s ∧ a.s < b.e ∧ a.e > b.e) ∨
  (a.s < b.s ∧ a.e < b.e ∧ iabs (a.e - b.s) ≤ step) ∨
  (a.s > b.s ∧ a.e > b.e ∧ iabs (a.s - b.e) ≤ step) ∨
  (a.s < b.s ∧ a.e > b.e) ∨
  (iabs (a.s - b.s) ≤ step ∧ a.e > b.e) ∨
  (a.s < b.s ∧ iabs (a.e - b.e) ≤ step) ∨
  (a.s > b.s ∧ a.e < b.e)

instance (a b : MTR) (step : Int) : Decidable (Merges a b step) :=
  show Decidable (_ ∨ _) from inferInstance

/-- one more branch in front of a chain of branches that all answer `v` -/
theorem ite_some_or {α : Type} {c q : Prop} [Decidable c] [Decidable q] [Decidable (c ∨ q)] {r v : α} {rest : Option α}
    (hr : c → r = v) (hrest : rest = if q then some v else none) :
    (if c then some r else rest) = if c ∨ q then some v else none := by
  by_cases h : c
  · simp [h, hr h]
  · simp [h, hrest]

theorem ite_some_last {α : Type} {c : Prop} [Decidable c] {r v : α} (hr : c → r = v) :
    (if c then some r else none) = if c then some v else none := by
  by_cases h : c <;> simp [h, hr]

/-- each branch's own condition decides its `min` / `max` -/
theorem overlaps_eq (a b : MTR) (step : Int) :
    overlaps a b step = if a.fp = b.fp ∧ Merges a b step then some ⟨min a.s b.s, max a.e b.e⟩ else none := by
  unfold overlaps Merges
  by_cases hfp : a.fp = b.fp
  · simp only [hfp, ne_eq, not_true_eq_false, if_false, true_and]
    refine ite_some_or ?_ <| ite_some_or ?_ <| ite_some_or ?_ <| ite_some_or ?_ <| ite_some_or ?_ <|
      ite_some_or ?_ <| ite_some_or ?_ <| ite_some_or ?_ <| ite_some_last ?_
    all_goals exact fun h => by congr 1 <;> omega
  · simp [hfp]

def near (a b : MTR) (step : Int) : Bool := decide (a.s ≤ b.e + step ∧ b.s ≤ a.e + step)

theorem near_iff {a b : MTR} {step : Int} : near a b step = true ↔ a.s ≤ b.e + step ∧ b.s ≤ a.e + step :=
  decide_eq_true_iff

theorem near_eq_false {a b : MTR} {step : Int} : near a b step = false ↔ b.e + step < a.s ∨ a.e + step < b.s := by
  simp only [near, decide_eq_false_iff_not]; omega

theorem near_comm (a b : MTR) (step : Int) : near a b step = near b a step := by
  rw [Bool.eq_iff_iff, near_iff, near_iff, and_comm]

/-- `Overlaps` never bridges a gap of more than a step -/
theorem Merges.near {a b : MTR} {step : Int} (h : Merges a b step) (hs : 0 ≤ step) (ha : a.s ≤ a.e) (hb : b.s ≤ b.e) :
    near a b step = true := by
  unfold Merges at h
  simp only [iabs_le] at h
  rw [near_iff]
  omega

/-- ranges strictly ordered in both coordinates that are near: the second or the fourth condition holds (the third or
the fifth when `b` comes first) -/
theorem merges_of_stair {a b : MTR} {step : Int} (hst : (a.s < b.s ∧ a.e < b.e) ∨ (b.s < a.s ∧ b.e < a.e))
    (hn : near a b step = true) : Merges a b step := by
  rw [near_iff] at hn
  unfold Merges
  simp only [iabs_le]
  rcases hst with h | h
  · by_cases hc : a.e > b.s
    · exact Or.inr (Or.inl ⟨h.1, hc, h.2⟩)
    · exact Or.inr (Or.inr (Or.inr (Or.inl ⟨h.1, h.2, by omega, by omega⟩)))
  · by_cases hc : a.s < b.e
    · exact Or.inr (Or.inr (Or.inl ⟨h.1, hc, h.2⟩))
    · exact Or.inr (Or.inr (Or.inr (Or.inr (Or.inl ⟨h.1, h.2, by omega, by omega⟩))))

theorem overlaps_stair (a b : MTR) (step : Int) (hs : 0 ≤ step) (hfp : a.fp = b.fp) (ha : a.s ≤ a.e) (hb : b.s ≤ b.e)
    (hst : (a.s < b.s ∧ a.e < b.e) ∨ (b.s < a.s ∧ b.e < a.e)) :
    overlaps a b step = if near a b step then some ⟨min a.s b.s, max a.e b.e⟩ else none := by
  have : (a.fp = b.fp ∧ Merges a b step) ↔ near a b step = true :=
    ⟨fun h => h.2.near hs ha hb, fun h => ⟨hfp, merges_of_stair hst h⟩⟩
  simp only [overlaps_eq, this]

end Pint.Props.C13
