/-
  C14 — identical questions reach a Prometheus server once; concurrency stays bounded.

  Every reachable state of the transition system `Model/Flight.lean` (any number of callers, questions and workers, any
  interleaving of the atomic steps) satisfies `Inv`; the four statements of the property are read off it.  What makes
  them true is the model's `acquire` guard: the lock key is a function of the cache key.  `keys_determined` decides that
  over `Gen/Keys`, the lock-key and cache-key expressions of every endpoint, regenerated from the Go source on every run.
  The cache with its clock is `Model/Cache.lean`: an answer lives for its cache lifetime.
-/
import PintModel.Lemmas.Flight
import PintModel.Gen.Keys
import PintModel.Lemmas.Cache
namespace Pint.Props.C14
open Pint.Flight

/-- `bound`: at most `W` jobs are with a worker; `wait`: a job past its cache miss (missed, in flight, filling) has no
cache entry for its key; `fr`: a `fresh` key (its last event at the server is a request that neither failed nor was
evicted) has a holder in flight or filling, or is cached. -/
structure Inv (W : Nat) (lockOf : Nat → Nat) (s : St) : Prop where
  lks : (s.holders.map (·.lk)).Nodup
  own : ∀ h ∈ s.holders, lockOf h.key = h.lk
  bound : active s.holders ≤ W
  wait : ∀ h ∈ s.holders, waitingB h.stage = true → lookup s.cache h.key = none
  fr : ∀ k, fresh k s.log = true →
    (s.holders.any fun h => h.key == k && flyingB h.stage) = true ∨ (lookup s.cache k).isSome = true

theorem inv_init (W : Nat) (lockOf : Nat → Nat) : Inv W lockOf init :=
  ⟨List.nodup_nil, List.forall_mem_nil _, Nat.zero_le _, List.forall_mem_nil _, fun _ h => Bool.noConfusion h⟩

theorem fresh_cons_deliver (k k' : Nat) (r : Option Nat) (l : List Ev) : fresh k (.deliver k' r :: l) = fresh k l := rfl
theorem fresh_cons_respOk (k k' a : Nat) (l : List Ev) : fresh k (.respOk k' a :: l) = fresh k l := rfl

section
variable {W : Nat} {lockOf : Nat → Nat} {s : St}

/-- keys determine lock keys, so a repeated key would be a repeated lock key -/
theorem Inv.keys_nodup (hI : Inv W lockOf s) : (s.holders.map (·.key)).Nodup :=
  List.pairwise_map.mpr ((List.pairwise_map.mp hI.lks).imp_of_mem fun {x y} hx hy hne hk =>
    hne (by rw [← hI.own x hx, ← hI.own y hy, hk]))

/-- what the invariant says at one holder's key: the one in flight for `x.key` can only be `x` -/
theorem Inv.at_holder (hI : Inv W lockOf s) {x : Holder} (hx : x ∈ s.holders) :
    (waitingB x.stage = true → lookup s.cache x.key = none) ∧
    (fresh x.key s.log = true → flyingB x.stage = true ∨ (lookup s.cache x.key).isSome = true) := by
  refine ⟨hI.wait x hx, fun hf => (hI.fr x.key hf).imp_left fun h => ?_⟩
  obtain ⟨y, hy, hyk, hyf⟩ := any_flying_iff.mp h
  rwa [eq_of_map_nodup hI.keys_nodup hx hy hyk] at hyf

/-- Frame lemma: `x` changes stage, cache and log change only in what they say about `x.key`.  All other holders have
other keys: left are the worker bound (`hb`) and the conditions at `x.key` (`hk`; they see the stage only through
`waitingB` and `flyingB`, so where these and what cache and log say about `x.key` stay, `hI.at_holder hx` will do).
Nine of the twelve actions are instances. -/
theorem Inv.stage_change (hI : Inv W lockOf s) {x : Holder} (hx : x ∈ s.holders) (st : Stage)
    (cache' : List (Nat × Nat)) (log' : List Ev)
    (hb : activeB st = true → activeB x.stage = true ∨ active s.holders < W)
    (hc : ∀ k, k ≠ x.key → lookup cache' k = lookup s.cache k)
    (hl : ∀ k, k ≠ x.key → fresh k log' = fresh k s.log)
    (hk : (waitingB st = true → lookup cache' x.key = none) ∧
      (fresh x.key log' = true → flyingB st = true ∨ (lookup cache' x.key).isSome = true)) :
    Inv W lockOf { holders := setStage x.lk st s.holders, cache := cache', log := log' } := by
  obtain ⟨l₁, l₂, e, hne⟩ := exists_middle_of_map_nodup hI.lks hx
  obtain ⟨hlks, hown, hbound, hwait, hfr⟩ := hI
  simp only [e] at hlks hown hbound hwait hfr hb
  simp only [e, setStage_split st hne]
  have hkey : ∀ h ∈ l₁ ++ l₂, h.key ≠ x.key := fun h hh e' =>
    hne h hh (by rw [← hown h (List.perm_middle.mem_iff.mpr (List.mem_cons_of_mem _ hh)), e', hown x (by simp)])
  refine ⟨by simpa using hlks, by simpa only [List.forall_mem_append, List.forall_mem_cons] using hown, ?_, ?_, ?_⟩
  · simp only [active, List.countP_append, List.countP_cons] at hbound hb ⊢
    split
    · rcases hb ‹_› with h0 | hlt
      · rwa [if_pos h0] at hbound
      · split at hlt <;> omega
    · split at hbound <;> omega
  · simp only [List.forall_mem_append, List.forall_mem_cons] at hwait hkey ⊢
    exact ⟨fun h hh hwt => by rw [hc _ (hkey.1 h hh)]; exact hwait.1 h hh hwt, hk.1,
      fun h hh hwt => by rw [hc _ (hkey.2 h hh)]; exact hwait.2.2 h hh hwt⟩
  · intro k hfk
    by_cases hkx : k = x.key
    · subst hkx; exact (hk.2 hfk).imp_left fun h => any_flying_iff.mpr ⟨{ x with stage := st }, by simp, rfl, h⟩
    · rw [hc k hkx]; rw [hl k hkx] at hfk
      -- neither `x` nor its replacement has key `k`
      have hxk : (x.key == k) = false := beq_false_of_ne (Ne.symm hkx)
      refine (hfr k hfk).imp_left fun h => ?_
      simp only [List.any_append, List.any_cons, hxk, Bool.false_and] at h ⊢
      exact h

end

theorem step_inv {W : Nat} {lockOf : Nat → Nat} {s : St} (hI : Inv W lockOf s) (a : Act)
    (he : enabled W lockOf s a = true) : Inv W lockOf (apply s a) := by
  cases a with
  | acquire lk key =>
    simp only [enabled, Bool.and_eq_true, beq_iff_eq, Bool.not_eq_true', List.any_eq_false] at he
    exact ⟨List.nodup_cons.mpr ⟨by simpa using he.2, hI.lks⟩, List.forall_mem_cons.mpr ⟨he.1, hI.own⟩,
      Nat.le_trans (Nat.le_of_eq (List.countP_cons_of_neg nofun)) hI.bound, List.forall_mem_cons.mpr ⟨nofun, hI.wait⟩,
      fun k hk => (hI.fr k hk).imp_left fun h => by simp only [apply, List.any_cons, h, Bool.or_true]⟩
  | enqueue lk =>
    obtain ⟨key, hx, -⟩ := holderAt_stage he
    exact hI.stage_change hx .queued _ _ nofun (fun _ _ => rfl) (fun _ _ => rfl) (hI.at_holder hx)
  | take lk =>
    simp only [enabled, Bool.and_eq_true, decide_eq_true_eq] at he
    obtain ⟨key, hx, -⟩ := holderAt_stage he.1
    exact hI.stage_change hx .got _ _ (fun _ => .inr he.2) (fun _ _ => rfl) (fun _ _ => rfl) (hI.at_holder hx)
  | hit lk =>
    obtain ⟨key, st, -, hx, hp⟩ := holderAt_spec he
    obtain rfl : st = .got := eq_of_beq (Bool.and_eq_true_iff.mp hp).1
    exact hI.stage_change hx _ _ _ nofun (fun _ _ => rfl) (fun k _ => fresh_cons_deliver k _ _ _) (hI.at_holder hx)
  | miss lk =>
    obtain ⟨key, st, -, hx, hp⟩ := holderAt_spec he
    obtain ⟨hg, hc⟩ := Bool.and_eq_true_iff.mp hp
    obtain rfl : st = .got := eq_of_beq hg
    exact hI.stage_change hx .missed _ _ (fun _ => .inl rfl) (fun _ _ => rfl) (fun _ _ => rfl)
      ⟨fun _ => Option.isNone_iff_eq_none.mp hc, (hI.at_holder hx).2⟩
  | unsupported lk =>
    obtain ⟨key, hx, -⟩ := holderAt_stage he
    exact hI.stage_change hx _ _ _ nofun (fun _ _ => rfl) (fun k _ => fresh_cons_deliver k _ _ _)
      ⟨nofun, (hI.at_holder hx).2⟩
  | send lk | respOk lk a =>
    -- both go from a waiting stage to one in flight, and log an event about `key` only
    obtain ⟨key, hx, hk⟩ := holderAt_stage he
    simp only [apply, hk]
    exact hI.stage_change hx _ _ _ (fun _ => .inl rfl) (fun _ _ => rfl) (fun k hk => by simp [fresh, Ne.symm hk])
      ⟨(hI.at_holder hx).1, fun _ => .inl rfl⟩
  | respErr lk =>
    obtain ⟨key, hx, hk⟩ := holderAt_stage he
    simp only [apply, hk]
    exact hI.stage_change hx _ _ _ nofun (fun _ _ => rfl) (fun k hk => by simp [fresh, Ne.symm hk])
      ⟨nofun, by simp [fresh]⟩
  | cacheSet lk =>
    obtain ⟨key, st, hxa, hx, hp⟩ := holderAt_spec he
    cases st with
    | filling a =>
      simp only [apply, hxa, keyAt_eq hxa, Option.map_some]
      exact hI.stage_change hx _ _ _ nofun (fun k hk => by rw [lookup_cacheSet, if_neg (Ne.symm hk)])
        (fun k _ => fresh_cons_deliver k _ _ _) ⟨nofun, fun _ => .inr (by rw [lookup_cacheSet, if_pos rfl]; rfl)⟩
    | _ => cases hp
  | gc k0 =>
    refine ⟨hI.lks, hI.own, hI.bound, fun h hh hw => ?_, fun k hk => ?_⟩
    · simp only [apply, lookup_cacheDel]
      split
      · rfl
      · exact hI.wait h hh hw
    · by_cases hkk : k0 = k
      · simp [apply, fresh, hkk] at hk
      · simp only [apply, fresh, beq_false_of_ne hkk, Bool.false_eq_true, if_false] at hk
        simp only [apply, lookup_cacheDel, if_neg hkk]
        exact hI.fr k hk
  | release lk =>
    obtain ⟨key, st, -, hx, hp⟩ := holderAt_spec he
    cases st with
    | delivered r =>
      have hsub : (s.holders.filter fun h => h.lk != lk).Sublist s.holders := List.filter_sublist
      refine ⟨hI.lks.sublist (hsub.map _), fun h hh => hI.own h (hsub.subset hh), Nat.le_trans hsub.countP_le hI.bound,
        fun h hh => hI.wait h (hsub.subset hh), fun k hk => (hI.fr k hk).imp_left fun h => ?_⟩
      -- the holder in flight for `k` is not the one released, which is at `delivered`
      obtain ⟨y, hy, hyk, hyf⟩ := any_flying_iff.mp h
      have hne : y.lk ≠ lk := fun e => by rw [eq_of_map_nodup hI.lks hx hy e] at hyf; cases hyf
      exact any_flying_iff.mpr ⟨y, List.mem_filter.mpr ⟨hy, bne_iff_ne.mpr hne⟩, hyk, hyf⟩
    | _ => cases hp

theorem reach_inv {W : Nat} {lockOf : Nat → Nat} {s : St} (h : Reach W lockOf s) : Inv W lockOf s := by
  induction h with
  | init => exact inv_init W lockOf
  | step a _ he ih => exact step_inv ih a he

theorem runActs_reach {W : Nat} {lockOf : Nat → Nat} : ∀ (as : List Act) (s s' : St), Reach W lockOf s →
    runActs W lockOf s as = some s' → Reach W lockOf s' := by
  intro as s s' hr h
  fun_induction runActs W lockOf s as with
  | case1 s => exact Option.some.inj h ▸ hr
  | case2 s a as he ih => exact ih (hr.step a he) h
  | case3 => cases h

/-- **single flight**: the requests in flight at the server have pairwise different cache keys — identical requests are
never in flight at the same time. -/
theorem single_flight {W : Nat} {lockOf : Nat → Nat} {s : St} (h : Reach W lockOf s) : (inflightKeys s).Nodup :=
  (reach_inv h).keys_nodup.sublist (inflightKeys_sublist s)

/-- **bounded concurrency**: never more than `W` requests in flight. -/
theorem bounded {W : Nat} {lockOf : Nat → Nat} {s : St} (h : Reach W lockOf s) : (inflightKeys s).length ≤ W :=
  Nat.le_trans (length_inflightKeys_le s) (reach_inv h).bound

/-- **at most once per cache lifetime**: whenever a request for question `k` can be sent, the most recent event about
`k` at the server is not an unanswered-or-successful request — it failed, or its answer was evicted, or there was
none. -/
theorem at_most_once {W : Nat} {lockOf : Nat → Nat} {s : St} (h : Reach W lockOf s) (lk : Nat)
    (he : enabled W lockOf s (.send lk) = true) : fresh (keyAt s lk) s.log = false := by
  obtain ⟨key, hx, rfl⟩ := holderAt_stage he
  -- a fresh key is in flight or cached; the holder about to send is not in flight and has missed the cache
  obtain ⟨hw, hf⟩ := (reach_inv h).at_holder hx
  cases hfr : fresh (keyAt s lk) s.log with
  | false => rfl
  | true =>
    rcases hf hfr with hc | hc
    · cases hc
    · rw [hw rfl] at hc; cases hc

/-- **a cached answer is reused**: a worker holding a job whose key is cached cannot take the miss branch, and the
result it hands to the caller is the cached answer. -/
theorem answer_reused {W : Nat} {lockOf : Nat → Nat} (s : St) (lk a : Nat) (x : Holder)
    (hx : holderAt s.holders lk = some x) (hc : lookup s.cache x.key = some a) :
    enabled W lockOf s (.miss lk) = false ∧
    (enabled W lockOf s (.hit lk) = true → (apply s (.hit lk)).log.head? = some (.deliver x.key (some a))) := by
  constructor
  · simp [enabled, hx, hc]
  · -- `apply` writes the log entry whether or not the action is enabled
    intro _
    simp [apply, keyAt_eq hx, hc]

/-- with `answer_reused`, why all callers of one question get equal results while the answer is cached (the composition
is not stated) -/
theorem hit_keeps_cache (s : St) (lk : Nat) : (apply s (.hit lk)).cache = s.cache := rfl

/-- only a successful answer enters the cache, and only evictions remove entries -/
theorem cache_changes_only_by_set_or_gc (s : St) (a : Act) (k : Nat)
    (h1 : ∀ lk, a ≠ .cacheSet lk) (h2 : ∀ k', a ≠ .gc k') : lookup (apply s a).cache k = lookup s.cache k := by
  cases a with
  | cacheSet lk => exact absurd rfl (h1 lk)
  | gc k' => exact absurd rfl (h2 k')
  | _ => rfl

-- non-vacuity: two callers ask the same question with one worker: the second waits for the lock, finds the answer in
-- the cache, and the server sees one request
def demoLockOf (k : Nat) : Nat := k + 100

def demoRun : List Act :=
  [ .acquire 107 7, .enqueue 107, .take 107, .miss 107, .send 107, .respOk 107 42, .cacheSet 107, .release 107,
    .acquire 107 7, .enqueue 107, .take 107, .hit 107, .release 107 ]

example : ((runActs 1 demoLockOf init demoRun).map fun s => s.log.reverse) =
    some [.send 7, .respOk 7 42, .deliver 7 (some 42), .deliver 7 (some 42)] := by decide

example : runActs 1 demoLockOf init [.acquire 107 7, .acquire 107 7] = none := by decide

/-- a lock key that is NOT `lockOf` of the cache key: the model refuses the acquisition (for the Go code's keys this
hypothesis is `keys_determined`) -/
example : enabled 1 demoLockOf init (.acquire 5 7) = false := by decide

/-! The key table of the Go code (`internal/promapi`).  Where both sides of an equation evaluate to the same literals
the proof is `rfl`, which compares string literals as such; `decide` would run `String.decEq` on them byte by byte. -/
section Keys
open Pint.Gen.Keys

/-- the lock that guards the job: the last one taken before the job is queued -/
def jobLock (e : Endpoint) : Option LockKey := e.locks.getLast?

def sliceLockShape : List (Bool × String) :=
  [(false, "strconv.FormatUint"), (false, "query.query.CacheKey()"), (false, "10")]

/-- the lock key is built from constants and from fields that the cache key hashes, or it is the cache key itself -/
def lockDetermined (e : Endpoint) (q : QueryType) : Bool :=
  match jobLock e with
  | none => false
  | some l =>
    if l.kind == "concat" then l.parts.all fun p => p.1 || q.cacheFields.contains ("q." ++ p.2)
    else l.parts == sliceLockShape

def queryTypeOf (e : Endpoint) : Option QueryType := queryTypes.find? fun q => q.name == e.queryType

/-- hypothesis of the model (`acquire` needs `lockOf key = lk`), decided for every endpoint of the current source -/
theorem keys_determined : endpoints.all (fun e => (queryTypeOf e).any (lockDetermined e)) = true := by decide

/-- every lock has a deferred unlock of the same key; no lock call sits under a condition or loop, looking outwards as
far as the function literal that contains it; lock, deferred unlock, queueing and awaiting come in this order -/
theorem locks_released_and_ordered :
    endpoints.all (fun e => e.locks.all (·.deferredUnlock)) = true ∧
    endpoints.all (fun e => e.locks.all (·.guard == "")) = true ∧
    endpoints.map (·.order) =
      [["lock", "defer-unlock", "enqueue", "receive"],
       ["lock", "defer-unlock", "lock", "defer-unlock", "enqueue", "receive"],
       ["lock", "defer-unlock", "enqueue", "receive"],
       ["lock", "defer-unlock", "enqueue", "receive"],
       ["lock", "defer-unlock", "enqueue", "receive"]] := ⟨by decide, by decide, rfl⟩

/-- every field the request is built from is in the cache key, after the server URI and the endpoint -/
theorem cache_key_covers_request :
    queryTypes.all (fun q => q.requestFields.all q.cacheFields.contains &&
      (q.cacheArgs.take 2 == ["q.prom.unsafeURI", "q.Endpoint()"])) = true := by decide

/-- both ends of a range question enter the cache key rounded to the step (the code after fix e6e801d; with `Start` at
one second resolution a question with a lookback below the slice size never meets its own answer again) -/
theorem range_key_ends_rounded :
    ((queryTypes.find? fun q => q.name == "rangeQuery").map (·.cacheArgs)) =
      some ["q.prom.unsafeURI", "q.Endpoint()", "q.expr", "q.r.Start.Round(q.r.Step).Format(time.RFC3339)",
            "q.r.End.Round(q.r.Step).Format(time.RFC3339)", "output.HumanizeDuration(q.r.Step)"] := rfl

def expectedProcessJob : List String :=
  ["cache.get", "if-cached{", "return", "}", "isSupported", "if-unsupported{", "return", "}", "ratelimit", "run",
   "if-error{", "return", "apis.disable", "return", "return", "}", "cache.set", "return"]

/-- `processJob`: cache lookup first, the request only after a miss, the cache filled only after the error branch has
returned — the order of the model's worker actions -/
theorem processJob_shape : processJob = expectedProcessJob := rfl

def expectedWorkerLoop : String := "w := 1; w <= prom.concurrency"
def expectedWorkerBody : String := "{ job.result <- processJob(prom, job) }"
def expectedLockBody : String := "{ p.l.Lock() defer p.l.Unlock() for p.locked(id) { p.c.Wait() } p.s[id] = struct{}{} verifTrace(\"lock\", id, 0) }"
def expectedUnlockBody : String := "{ p.l.Lock() defer p.l.Unlock() verifTrace(\"unlock\", id, 0) delete(p.s, id) p.c.Broadcast() }"

/-- `concurrency` workers, one job at a time each; the keyed lock waits while the key is held -/
theorem pool_and_lock_shape :
    workerLoop = expectedWorkerLoop ∧ workerBody = expectedWorkerBody ∧
    lockBody = expectedLockBody ∧ unlockBody = expectedUnlockBody := ⟨rfl, rfl, rfl, rfl⟩

/-- why a range query needs the per-slice lock: its outer lock key mentions the lookback (`params.String()`), which the
slice cache key does not hash, so it is not a function of the cache key -/
theorem range_outer_lock_not_determined_by_slice :
    ((endpoints.find? fun e => e.method == "RangeQuery").bind fun e => e.locks.head?).any
      (fun l => l.parts.any fun p => p.2 == "params.String()") = true ∧
    ((queryTypes.find? fun q => q.name == "rangeQuery").any fun q => q.cacheArgs.any fun a => a == "params.String()") = false := by
  decide

end Keys

section CacheLife
open Pint.Cache

/-- `gc` (`sweep` in the model) removes only entries that are expired or stale -/
theorem gc_removes_only_dead (c : Cache) (e : Entry) (he : e ∈ c.entries) (hn : e ∉ (sweep c).entries) : dead c e = true := by
  simpa [mem_sweep, he] using hn

/-- **cache lifetime**: an answer is still handed out after a sweep, as long as no more than its ttl and less than
`maxStale` has passed since it was stored.  One `advance` and one `sweep`: a run of several is not stated. -/
theorem stored_answer_survives_sweep (c : Cache) (k v ttl d : Nat) (hd : d ≤ ttl) (hs : d < c.maxStale) :
    (look (sweep (advance (put c k v ttl) d)) k).2 = some v := by
  -- the entry expires at `c.now + ttl` (never if `ttl = 0`), was last read at `c.now`, and the clock reads `c.now + d`
  refine look_sweep_of_live ((find_advance _ d k).trans (find_put_self c k v ttl)) ?_
  by_cases ht : ttl > 0 <;> simp [dead, advance, put, ht, hd, hs]

/-- **and not longer**: once more than its (positive) ttl has passed the answer is a miss at the next lookup, even if
no sweep has run since (`get` looks at expiry itself: the code after fix 926463a) -/
theorem expired_answer_is_a_miss (c : Cache) (k v ttl d : Nat) (ht : 0 < ttl) (hd : ttl < d) :
    (look (advance (put c k v ttl) d) k).2 = none := by
  rw [look_snd, find_advance, find_put_self]
  simpa [expired, advance, put, ht] using hd

-- non-vacuity, and the two ways an entry dies (expiry, staleness)
example : (look (advance (put (empty 100 0) 7 42 50) 51) 7).2 = none := by decide
example : (look (advance (put (empty 100 0) 7 42 50) 50) 7).2 = some 42 := by decide
example : (look (sweep (advance (put (empty 100 0) 7 42 50) 50)) 7).2 = some 42 := by decide
example : (look (sweep (advance (put (empty 100 0) 7 42 50) 51)) 7).2 = none := by decide
example : (look (sweep (advance (put (empty 100 0) 7 42 0) 100)) 7).2 = none := by decide
example : (look (sweep (advance (look (advance (put (empty 100 0) 7 42 0) 99) 7).1 99)) 7).2 = some 42 := by decide

end CacheLife

end Pint.Props.C14
