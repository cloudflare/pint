/-
  C11 — results do not depend on worker count or scheduling (report-stream level).
  Any schedule of N workers delivers the same multiset of reports in some order, so the statement is permutation
  invariance of `pipeline` (insert → sort → dedup): `C11_holds`, with no hypothesis on the stream, for the code after
  fix 607535a (folding and sorting are one total comparison).  It is `C11_partial` on the stream with sorted
  diagnostics, where its hypotheses `EqOn` and `OrdOn leRep` always hold (comparator algebra: `C11/Compare`; the sort:
  `C11/Sort`).  The hypotheses of `C11_partial` and `C11_schedules` are what the Boolean monitors of Model/Report
  decide (`*_sound`); the monitors are evaluated on real runs.
  Data races and the Go scheduler are outside the model.
-/
import PintModel.Props.C11.Sort
import PintModel.Props.C11.Compare
namespace Pint.Props.C11
open Pint.Report

theorem any_perm {β} (p : β → Bool) (l l' : List β) (h : l.Perm l') : l.any p = l'.any p := h.any_eq

theorem all_perm {β} (p : β → Bool) (l l' : List β) (h : l.Perm l') : l.all p = l'.all p := h.all_eq

theorem sortDiags_perm (ds : List Diag) : (sortDiags ds).Perm ds := stableSort_perm _ ds

def EqOn (s : List Rep) : Prop := ∀ a ∈ s, ∀ b ∈ s, isEqual a b = true → a = b

theorem EqOn.mono {s t : List Rep} (he : EqOn s) (h : t ⊆ s) : EqOn t := fun a ha b hb => he a (h ha) b (h hb)

theorem count_insertAll (s : List Rep) (he : EqOn s) (v : Rep) : (insertAll s).count v = min 1 (s.count v) := by
  induction s using List.concat_induction with
  | nil => rfl
  | concat s r ih =>
    have ih := ih (he.mono (List.subset_append_left s [r]))
    have hskip : ((insertAll s).any fun er => isEqual er r) = true ↔ 0 < (insertAll s).count r := by
      rw [List.count_pos_iff]
      refine ⟨fun h => ?_, fun hm => List.any_eq_true.2 ⟨r, hm, isEqual_refl r⟩⟩
      obtain ⟨er, her, heq⟩ := List.any_eq_true.1 h
      obtain rfl := he er (List.mem_append_left _ ((insertAll_sublist s).subset her)) r (by simp) heq
      exact her
    rw [insertAll_concat, insertRep, apply_ite (List.count v), List.count_append, List.count_append]
    by_cases hv : r = v
    · subst hv
      simp only [hskip, List.count_singleton_self, ih]
      rcases Nat.eq_zero_or_pos (s.count r) with h | h
      · rw [h]; rfl
      · rw [Nat.min_eq_left h, if_pos Nat.one_pos, Nat.min_eq_left (Nat.succ_pos _)]
    · rw [List.count_singleton, if_neg (mt beq_iff_eq.1 hv), Nat.add_zero, Nat.add_zero, ite_self, ih]

theorem insertAll_perm {s₁ s₂ : List Rep} (hperm : s₁.Perm s₂) (he : EqOn s₁) : (insertAll s₁).Perm (insertAll s₂) := by
  rw [List.perm_iff_count]
  intro v
  rw [count_insertAll s₁ he, count_insertAll s₂ (he.mono hperm.symm.subset), hperm.count_eq]

theorem mem_insertAll (s : List Rep) (he : EqOn s) (x : Rep) : x ∈ insertAll s ↔ x ∈ s := by
  rw [← List.count_pos_iff, ← List.count_pos_iff, count_insertAll s he]
  exact Nat.lt_min.trans (and_iff_right Nat.one_pos)

/-! The comparator sorts the diagnostics of both sides before it compares them, so it cannot tell a report from the
  one with sorted diagnostics (`norm`), and on such reports a zero means equality. -/

/-- `norm`, `nrep`, `normTagged` are the model's `normRep`, `nrepT`, `normT` (by `rfl`), with which its Boolean monitors
    are written; the `*_sound` lemmas unfold both. -/
def norm (r : Rep) : Rep := { r with diags := sortDiags r.diags }

theorem Good.ordOn {β : Type} {c : β → β → Int} (g : Good c) (l : List β) (h0 : ∀ a ∈ l, ∀ b ∈ l, c a b = 0 → a = b) :
    OrdOn (fun a b => decide (c b a ≥ 0)) l := by
  refine ⟨fun a _ b _ => ?_, fun a _ b _ d _ h1 h2 => ?_, fun a ha b hb h1 h2 => h0 a ha b hb ?_⟩ <;>
    simp only [decide_eq_true_eq] at *
  · have := g.swap a b; omega
  · have s1 := g.swap a b
    have s2 := g.swap b d
    have s3 := g.swap a d
    have := g.trans a b d (by omega) (by omega)
    omega
  · have := g.swap a b; omega

theorem ordOn_diags (l : List Diag) : OrdOn (fun a b => decide (cmpDiags b a ≥ 0)) l :=
  good_cmpDiags.ordOn l fun a _ b _ => eq_of_cmpDiags_eq_zero a b

theorem sortDiags_idem (ds : List Diag) : sortDiags (sortDiags ds) = sortDiags ds :=
  stableSort_perm_invariant (stableSort_perm _ ds) (ordOn_diags _) (List.Subset.refl _)

theorem norm_norm (r : Rep) : norm (norm r) = norm r := by
  simp only [norm, sortDiags_idem]

theorem cmpReports_norm (a b : Rep) : cmpReports (norm a) (norm b) = cmpReports a b := by
  simp only [cmpReports, cmpRules, cmpDiagnostics, norm, sortDiags_idem]

theorem isEqual_norm (a b : Rep) : isEqual (norm a) (norm b) = isEqual a b := by
  simp only [isEqual, cmpReports_norm]

theorem eqOn_norm (s : List Rep) : EqOn (s.map norm) := by
  simp only [EqOn, List.forall_mem_map, isEqual_norm]
  exact fun a _ b _ h => cmpReports_zero a b (of_decide_eq_true h)

theorem ordOn_norm (s : List Rep) : OrdOn leRep (s.map norm) :=
  good_cmpReports.ordOn _ fun a ha b hb h => eqOn_norm s a ha b hb (decide_eq_true h)

theorem pipeline_eq_pipe2 (stream : List Rep) : pipeline stream = pipe2 (stream.map norm) := by
  unfold pipeline pipe2 sortReports
  rw [insertAll_map norm isEqual_norm]
  rfl

theorem pipeline_map_norm (s : List Rep) : pipeline (s.map norm) = pipeline s := by
  rw [pipeline_eq_pipe2, pipeline_eq_pipe2, List.map_map]
  simp only [Function.comp_def, norm_norm]

def C11_statement : Prop := ∀ s₁ s₂ : List Rep, s₁.Perm s₂ → pipeline s₁ = pipeline s₂

/-- C11 under the two monitored hypotheses: every permutation of the report stream (every schedule, every worker
    count) gives the same result -/
theorem C11_partial (s₁ s₂ : List Rep) (hperm : s₁.Perm s₂) (he : EqOn s₁) (ho : OrdOn leRep (s₁.map norm)) :
    pipeline s₁ = pipeline s₂ :=
  congrArg (fun s => s.zip (dedup s)) <|
    stableSort_perm_invariant ((insertAll_perm hperm he).map norm) ho ((insertAll_sublist s₁).map norm).subset

/-- **C11**: for every stream of reports, every arrival order (every worker count, every interleaving — any
permutation at all, not only those that keep a job's own order) gives the same sorted, folded, duplicate-marked list.
No hypothesis on the stream. -/
theorem C11_holds : C11_statement := by
  intro s₁ s₂ hperm
  rw [← pipeline_map_norm s₁, ← pipeline_map_norm s₂]
  exact C11_partial _ _ (hperm.map norm) (eqOn_norm s₁) (ordOn_norm _)

/-- a regression pair for fix 607535a (hunt/C11 has it with real checks): same path, problem lines 1-5 and 1-3 on a
    rule at 1-5, different details; neither report is folded into the other. -/
def wA : Rep := ⟨0, 0, 0, 1, 5, 1, 5, 0, 0, 0, 0, 0, 0, 1, []⟩
def wB : Rep := ⟨0, 0, 0, 1, 3, 1, 5, 0, 0, 0, 0, 1, 0, 1, []⟩

example : pipeline [wA, wB] = pipeline [wB, wA] ∧ (pipeline [wA, wB]).length = 2 := by decide

/-! Schedules.  A job is one (entry, check) pair; a worker sends a job's problems in order, so every schedule keeps the
  relative order of the reports of one job, and ties of the comparator inside one job are harmless. -/

def nrep (x : Tagged) : Rep := x.rep

def ValidSchedule (s : List Tagged) : Prop := s.Pairwise fun x y => x.job = y.job → x.seq < y.seq

def UniqueIn (s : List Tagged) (x : Tagged) : Prop := ∀ z ∈ s, nrep z = nrep x → z = x

def beforeS (s : List Tagged) (a b : Rep) : Prop :=
  ∃ x ∈ s, ∃ y ∈ s, nrep x = a ∧ nrep y = b ∧ x.job = y.job ∧ x.seq < y.seq ∧ UniqueIn s x ∧ UniqueIn s y

structure StreamOk (s : List Tagged) : Prop where
  eqOn : EqOn (s.map (·.rep))
  total : ∀ a ∈ s, ∀ b ∈ s, leRep (nrep a) (nrep b) = true ∨ leRep (nrep b) (nrep a) = true
  trans : ∀ a ∈ s, ∀ b ∈ s, ∀ c ∈ s, leRep (nrep a) (nrep b) = true → leRep (nrep b) (nrep c) = true → leRep (nrep a) (nrep c) = true
  /-- comparator ties between different reports only happen inside one job, between reports that occur once -/
  ties : ∀ a ∈ s, ∀ b ∈ s, leRep (nrep a) (nrep b) = true → leRep (nrep b) (nrep a) = true →
    nrep a = nrep b ∨ (a.job = b.job ∧ UniqueIn s a ∧ UniqueIn s b)
  tags : ∀ a ∈ s, ∀ b ∈ s, a.job = b.job → a.seq = b.seq → a = b

theorem respects_of_valid (s t : List Tagged) (hv : ValidSchedule t) (hsub : t ⊆ s) :
    (t.map nrep).Pairwise fun a b => ¬ beforeS s b a := by
  rw [List.pairwise_map]
  refine hv.imp_of_mem fun {x y} hx hy hxy hb => ?_
  obtain ⟨x', -, y', -, e1, e2, hj, hs, u1, u2⟩ := hb
  obtain rfl := u1 y (hsub hy) e1.symm
  obtain rfl := u2 x (hsub hx) e2.symm
  exact Nat.lt_asymm hs (hxy hj.symm)

theorem StreamOk.ordUpTo {s : List Tagged} (hok : StreamOk s) : OrdUpTo leRep (beforeS s) (s.map nrep) := by
  refine ⟨?_, ?_, ?_⟩ <;> simp only [List.forall_mem_map]
  · exact hok.total
  · exact hok.trans
  · intro x hx y hy hxy hyx
    rcases hok.ties x hx y hy hxy hyx with h | ⟨hj, ux, uy⟩
    · exact .inl h
    · rcases Nat.lt_trichotomy x.seq y.seq with h | h | h
      · exact .inr (.inl ⟨x, hx, y, hy, rfl, rfl, hj, h, ux, uy⟩)
      · exact .inl (congrArg nrep (hok.tags x hx y hy hj h))
      · exact .inr (.inr ⟨y, hy, x, hx, rfl, rfl, hj.symm, h, uy, ux⟩)

theorem pipe2_schedules (s₁ s₂ : List Tagged) (hperm : s₁.Perm s₂) (hv1 : ValidSchedule s₁) (hv2 : ValidSchedule s₂)
    (hok : StreamOk s₁) : pipe2 (s₁.map (·.rep)) = pipe2 (s₂.map (·.rep)) :=
  congrArg (fun s => s.zip (dedup s)) <|
    stableSort_perm_invariant_upTo (insertAll_perm (hperm.map _) hok.eqOn)
      (hok.ordUpTo.mono (insertAll_sublist _).subset)
      ((respects_of_valid s₁ s₁ hv1 fun _ h => h).sublist (insertAll_sublist _))
      ((respects_of_valid s₁ s₂ hv2 hperm.symm.subset).sublist (insertAll_sublist _))

def normTagged (x : Tagged) : Tagged := { x with rep := norm x.rep }

/-- C11 over schedules: two arrival orders of the same produced reports in which each job's reports keep their own
    order give the same pipeline output, provided the produced set of reports, with diagnostics sorted, satisfies
    `StreamOk` (decidable, monitored on real runs).  Comparator ties inside one job, which real checks do produce, are
    allowed. -/
theorem C11_schedules (s₁ s₂ : List Tagged) (hperm : s₁.Perm s₂) (hv1 : ValidSchedule s₁) (hv2 : ValidSchedule s₂)
    (hok : StreamOk (s₁.map normTagged)) : pipeline (s₁.map (·.rep)) = pipeline (s₂.map (·.rep)) := by
  have := pipe2_schedules (s₁.map normTagged) (s₂.map normTagged) (hperm.map _)
    (List.pairwise_map.2 hv1) (List.pairwise_map.2 hv2) hok
  rw [List.map_map, List.map_map] at this
  rw [pipeline_eq_pipe2, pipeline_eq_pipe2, List.map_map, List.map_map]
  exact this

/-- how the Boolean monitors write an implication; in a simp set that also has `Bool.or_eq_true` write
    `↓not_or_eq_true_imp`, or the disjunction is split first -/
theorem not_or_eq_true_imp {a b : Bool} : (!a || b) = true ↔ (a = true → b = true) := by
  cases a <;> simp

theorem eqOnB_sound (s : List Rep) (h : eqOnB s = true) : EqOn s := by
  simpa only [EqOn, eqOnB, List.all_eq_true, not_or_eq_true_imp, decide_eq_true_eq] using h

theorem uniqueInB_sound (s : List Tagged) (x : Tagged) (h : uniqueInB s x = true) : UniqueIn s x := by
  simpa only [UniqueIn, nrep, nrepT, uniqueInB, List.all_eq_true, not_or_eq_true_imp, beq_iff_eq] using h

theorem streamOkB_sound (s : List Tagged) (h : streamOkB s = true) : StreamOk s := by
  simp only [streamOkB, okTotal, okTrans, okTies, okTags, Bool.and_eq_true, List.all_eq_true, ↓not_or_eq_true_imp,
    and_imp, Bool.or_eq_true, beq_iff_eq] at h
  obtain ⟨⟨⟨⟨h1, h2⟩, h3⟩, h4⟩, h5⟩ := h
  exact ⟨eqOnB_sound _ h1, h2, h3, fun a ha b hb hab hba => (h4 a ha b hb hab hba).imp_right
    fun ⟨⟨hj, ua⟩, ub⟩ => ⟨hj, uniqueInB_sound s a ua, uniqueInB_sound s b ub⟩, h5⟩

theorem validScheduleB_sound (s : List Tagged) (h : validScheduleB s = true) : ValidSchedule s := by
  induction s with
  | nil => exact .nil
  | cons x rest ih =>
    simp only [validScheduleB, Bool.and_eq_true, List.all_eq_true, not_or_eq_true_imp, beq_iff_eq, decide_eq_true_eq] at h
    exact .cons h.1 (ih h.2)

theorem monitors_sound (s : List Rep) (h1 : eqOnB s = true) (h2 : ordOnB s = true) :
    EqOn s ∧ OrdOn leRep (s.map norm) := by
  simp only [ordOnB, Bool.and_eq_true, List.all_eq_true, ↓not_or_eq_true_imp, and_imp, Bool.or_eq_true,
    decide_eq_true_eq] at h2
  exact ⟨eqOnB_sound s h1, h2.1.1, h2.1.2, h2.2⟩

def d1 : Rep := ⟨0, 0, 0, 1, 5, 1, 5, 0, 0, 2, 0, 0, 0, 1, [⟨1, 3, 0⟩]⟩
def d2 : Rep := ⟨0, 0, 0, 7, 9, 7, 9, 1, 0, 1, 0, 0, 0, 2, [⟨1, 3, 0⟩, ⟨4, 6, 1⟩]⟩
def d2' : Rep := ⟨0, 0, 0, 7, 9, 7, 9, 1, 0, 1, 0, 0, 0, 2, [⟨4, 6, 1⟩, ⟨1, 3, 0⟩]⟩
def d3 : Rep := ⟨1, 1, 0, 1, 5, 1, 5, 0, 0, 2, 0, 0, 0, 1, [⟨1, 3, 0⟩]⟩

/-- non-vacuity: three distinct reports, one arriving twice, diagnostics in two orders -/
theorem demo : pipeline [d1, d2, d3, d1, d2'] = pipeline [d3, d2', d1, d1, d2] ∧
    (pipeline [d1, d2, d3, d1, d2']).map (·.1) = [norm d1, norm d2, norm d3] := by
  decide

end Pint.Props.C11
