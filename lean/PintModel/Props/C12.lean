/-
# C12 — a "dead code" report is never a false positive

Joins: pint declares a join operand dead when `canJoin` fails.  Proved: no left series can then be matched with any
right series, provided the left series carry the labels the analyser silently assumes they carry (`MustHave`; the data
hypothesis "every stored series carries every label of `U`" provides it).  Matching is judged on label names alone.
Static verdicts (`calculateStaticReturn`): sound on closed, well-typed queries that are `boolFree`, `valueKeeping` and
`unlessSimple`, each with its `static_*_not_sound` witness, in the model as in the code.

A recorded finding is named at the theorem it limits; one more, `C12-on-metric-name` (functions drop the metric name,
the source keeps it), is what the hypotheses `n ≠ nameL` keep out.  C12 is claimed at the level of these theorems plus
the engine differential runs.
-/
import PintModel.Props.C12.Joins
import PintModel.Props.C12.Static
namespace Pint.Props.C12
open Pint.LabelFlow

/-- **C12, `on(...)` joins with any number of right-hand branches**: if `canJoin` rejects *every* source of the right
operand, no series of the left operand finds a partner.  pint reports each rejected branch of an `or` on the right on its
own: the recorded finding `C12-never-matched-per-branch`. -/
theorem C12_on_all_branches_rejected (U m : LS) (e1 e2 : Expr) (hf1 : frag12 e1 = true) (hw2 : wf e2 = true)
    (s1 : Src) (h1 : analyse e1 = [s1])
    (hm : ∀ n ∈ m, n ∈ U ∧ n ≠ nameL) (hc : ∀ s2 ∈ analyse e2, canJoin true m s1 s2 = false) :
    ∀ a ∈ full U e1, ∀ b ∈ possible U e2, ¬ sameNames (signature true m a) (signature true m b) :=
  all_branches_rejected hf1 h1 hm hc

/-- **C12, joins without `on`** (`ignoring(m)`, or no modifier: `m = []`): `canJoin` then looks at the labels the left
source guarantees; they come from the matchers the query spells out, and `hg` asks that they are labels of `U`, the
metric name not among them. -/
theorem C12_ignoring_all_branches_rejected (U m : LS) (e1 e2 : Expr) (hf1 : frag12 e1 = true) (hw2 : wf e2 = true)
    (s1 : Src) (h1 : analyse e1 = [s1])
    (hg : ∀ n ∈ s1.guar, n ∈ U ∧ n ≠ nameL) (hc : ∀ s2 ∈ analyse e2, canJoin false m s1 s2 = false) :
    ∀ a ∈ full U e1, ∀ b ∈ possible U e2, ¬ sameNames (signature false m a) (signature false m b) :=
  all_branches_rejected hf1 h1 hg hc

/-- **C12 for `on(...)` joins**: if the left operand is in the label-removing fragment, every stored series carries
every label of `U`, and `canJoin` rejects the pair of sources, then no series the left operand returns can be matched
with any series the right operand can return: the operand reported as "never matched" is never matched. -/
theorem C12_on_join_never_matches (U m : LS) (e1 e2 : Expr) (hf1 : frag12 e1 = true) (hw2 : wf e2 = true)
    (s1 s2 : Src) (h1 : analyse e1 = [s1]) (h2 : analyse e2 = [s2])
    (hm : ∀ n ∈ m, n ∈ U ∧ n ≠ nameL) (hc : canJoin true m s1 s2 = false) :
    ∀ a ∈ full U e1, ∀ b ∈ possible U e2, ¬ sameNames (signature true m a) (signature true m b) :=
  C12_on_all_branches_rejected U m e1 e2 hf1 hw2 s1 h1 hm (h2 ▸ List.forall_mem_singleton.mpr hc)

/-- non-vacuity: `m1{job="x"} * on(job) sum by (instance) (m2)` over labels job, instance -/
example :
    let e1 := Expr.sel [{ label := "job", kind := .eq }]
    let e2 := Expr.aggBy ["instance"] (.sel [])
    frag12 e1 = true ∧ (analyse e1).length = 1 ∧ (analyse e2).length = 1 ∧
    (match analyse e1, analyse e2 with | [a], [b] => canJoin true ["job"] a b | _, _ => true) = false ∧
    (full ["job", "instance"] e1).length = 1 := by decide

/-- **C12, the report**: `l op on(m) r` (arithmetic or comparison, one-to-one).  If the operation raises a "never
matched" flag that was not already there below it (`neverMatched` of the node exceeds what both operands brought
along) and the right operand has one source, the operation returns no series on any database whose series carry every
label of `U`. -/
theorem C12_report_on (U m : LS) (l r : Expr) (hf : frag12 l = true) (hw : wf r = true)
    (s1 s2 : Src) (h1 : analyse l = [s1]) (h2 : analyse r = [s2])
    (hm : ∀ n ∈ m, n ∈ U ∧ n ≠ nameL)
    (hflag : (neverMatched l).sum + (neverMatched r).sum < (neverMatched (.binOn m l r)).sum) :
    joined U true m l r = [] :=
  report (.binOn m l r) rfl rfl hf h1 h2 hm canJoin_binOn_transfer hflag

/-- **C12, the report** for `l op ignoring(m) r` and `l op r` (`m = []`) -/
theorem C12_report_ignoring (U m : LS) (l r : Expr) (hf : frag12 l = true) (hw : wf r = true)
    (s1 s2 : Src) (h1 : analyse l = [s1]) (h2 : analyse r = [s2])
    (hg : ∀ n ∈ s1.guar, n ∈ U ∧ n ≠ nameL)
    (hflag : (neverMatched l).sum + (neverMatched r).sum < (neverMatched (.binIgn m l r)).sum) :
    joined U false m l r = [] :=
  report (.binIgn m l r) rfl rfl hf h1 h2 hg canJoin_binIgn_transfer hflag

/-- **C12, the report** for `l and on(m) r` (and, read as "the right side changes nothing", `l unless on(m) r`) -/
theorem C12_report_and_on (U m : LS) (l r : Expr) (hf : frag12 l = true) (hw : wf r = true)
    (s1 s2 : Src) (h1 : analyse l = [s1]) (h2 : analyse r = [s2])
    (hm : ∀ n ∈ m, n ∈ U ∧ n ≠ nameL)
    (hflag : (neverMatched l).sum + (neverMatched r).sum < (neverMatched (.setAnd true m l r)).sum) :
    joined U true m l r = [] :=
  report (.setAnd true m l r) rfl rfl hf h1 h2 hm canJoin_setOn_transfer hflag

/-- non-vacuity of the report theorems: `m1{job="x"} * on(job) sum by (instance) (m2)` raises one flag at the top
operation and none below, without `on(job)` too (the guaranteed label `job`); `on(instance)` flags nothing -/
example :
    let l := Expr.sel [{ label := "job", kind := .eq }]
    let r := Expr.aggBy ["instance"] (.sel [])
    neverMatched l = [0] ∧ neverMatched r = [0] ∧ neverMatched (.binOn ["job"] l r) = [1] ∧
    neverMatched (.binIgn [] l r) = [1] ∧ neverMatched (.setAnd true ["job"] l r) = [1] ∧
    neverMatched (.binOn ["instance"] l r) = [0] ∧
    joined ["job", "instance"] true ["job"] l r = [] ∧ joined ["job", "instance"] true ["instance"] l r ≠ [] := by decide

/-- some operation inside `e` hands `canJoin` a pair of sources (its own transformed source, a source of the other
operand) that it rejects -/
def rejectsSomewhere : Expr → Bool
  | .sel _ => false
  | .aggBy _ e => rejectsSomewhere e
  | .aggWithout _ e => rejectsSomewhere e
  | .topk e => rejectsSomewhere e
  | .countValuesBy _ _ e => rejectsSomewhere e
  | .func e => rejectsSomewhere e
  | .labelReplace _ e => rejectsSomewhere e
  | .absent _ => false
  | .vec => false
  | .binOn m l r => rejectsSomewhere l || rejectsSomewhere r ||
      (analyse (.binOn m l r)).any fun s => (analyse r).any fun x => !canJoin true m s x
  | .binIgn m l r => rejectsSomewhere l || rejectsSomewhere r ||
      (analyse (.binIgn m l r)).any fun s => (analyse r).any fun x => !canJoin false m s x
  | .groupLeft on m incl l r => rejectsSomewhere l || rejectsSomewhere r ||
      (analyse (.groupLeft on m incl l r)).any fun s => (analyse r).any fun x => !canJoin on m s x
  | .groupRight on m incl l r => rejectsSomewhere l || rejectsSomewhere r ||
      (analyse (.groupRight on m incl l r)).any fun s => (analyse l).any fun x => !canJoin on m s x
  | .setAnd on m l r => rejectsSomewhere l || rejectsSomewhere r ||
      (analyse (.setAnd on m l r)).any fun s => (analyse r).any fun x => !canJoin on m s x
  | .setOr _ _ l r => rejectsSomewhere l || rejectsSomewhere r
  | .withScalar e => rejectsSomewhere e

/-- **C12, no flag without a rejection**: if `WalkSources` finds a "never matched" verdict anywhere below a source of
the query, some operation inside the query handed `canJoin` a pair of sources that it rejected -/
theorem flag_has_rejection : ∀ e : Expr, 0 < (neverMatched e).sum → rejectsSomewhere e = true := by
  intro e
  induction e with
  | sel _ | absent _ | vec => exact fun h => absurd h (Nat.lt_irrefl 0)
  | aggBy _ _ ih | aggWithout _ _ ih | topk _ ih | countValuesBy _ _ _ ih | func _ ih | labelReplace _ _ ih
  | withScalar _ ih => exact ih
  | setOr o m l r ihl ihr =>
    intro h
    simp only [neverMatched, List.sum_append_nat] at h
    simp only [rejectsSomewhere, Bool.or_eq_true]
    exact (Nat.add_pos_iff_pos_or_pos.mp h).imp ihl ihr
  | binOn m l r ihl ihr | binIgn m l r ihl ihr | groupLeft o m i l r ihl ihr | setAnd o m l r ihl ihr =>
    intro h
    simp only [rejectsSomewhere, Bool.or_eq_true, or_assoc]
    exact (zipWith_flags_pos h).imp ihl (Or.imp_left ihr)
  | groupRight o m i l r ihl ihr =>
    -- the right operand is the own side here
    intro h
    simp only [rejectsSomewhere, Bool.or_eq_true, or_assoc]
    exact or_left_comm.mp ((zipWith_flags_pos h).imp ihr (Or.imp_left ihl))

/-- `or` hands nothing to `canJoin`: the pair it rejects under `* on(job)` (above) is here neither rejected nor flagged -/
example :
    let e := Expr.setOr true ["job"] (.sel [{ label := "job", kind := .eq }]) (.aggBy ["instance"] (.sel []))
    rejectsSomewhere e = false ∧ (neverMatched e).sum = 0 := by decide

section staticFold
open Pint.StaticFlow

/-- **C12, static verdicts**: a closed, `bool`-free query that `calculateStaticReturn` declares dead returns nothing -/
theorem static_dead_returns_nothing (e : SE) (hc : closed e = true) (hb : boolFree e = true) (ht : wellTyped e = true)
    (hk : valueKeeping e = true) (hu : unlessSimple e = true) (hd : (static e).dead = true) : eval e = .v none := by
  have hs := (sound e hc hb ht hk hu).dead hd
  revert hs
  cases eval e with
  | s k => exact fun h => nomatch h
  | v x => exact congrArg Val.v

/-- and the number pint folds further is the value the query returns, whenever it returns one -/
theorem static_number_is_the_value (e : SE) (hc : closed e = true) (hb : boolFree e = true) (ht : wellTyped e = true)
    (hk : valueKeeping e = true) (hu : unlessSimple e = true) (k : Int) (hv : eval e = .v (some k) ∨ eval e = .s k) :
    (static e).num = k := by
  refine ((sound e hc hb ht hk hu).2.2 k ?_).1.symm
  rcases hv with h | h <;> rw [h] <;> rfl

/-- with `bool` the statement is false of the model, as it is of the code (recorded finding `C12-static-bool`:
`vector(0) > bool 2` is reported as dead code and returns 0) -/
theorem static_bool_not_sound :
    ∃ e : SE, closed e = true ∧ wellTyped e = true ∧ (static e).dead = true ∧ eval e = .v (some 0) :=
  ⟨.bin .gt true (.vector (.num 0)) (.num 2), by decide⟩

/-- a function that changes values makes the number unknown (fix 5cb81d1: `abs(vector(-1)) > 0` is not folded to
`-1 > 0`), but a known number next to it survives a vector-vector operation: `(vector(2) + abs(vector(-1))) > 2` is
folded to `2 > 2` and declared dead although it returns 3 (recorded with `C12-unless-through-join`, as the harness's
class `constant-through-vector-matching`); the reason for `valueKeeping` -/
theorem static_stale_through_join_not_sound :
    (static (.bin .gt false (.fn false (.vector (.num (-1)))) (.num 0))).dead = false ∧
    ∃ e : SE, closed e = true ∧ boolFree e = true ∧ wellTyped e = true ∧ (static e).dead = true ∧ eval e = .v (some 3) :=
  ⟨by decide, .bin .gt false (.bin .add false (.vector (.num 2)) (.fn false (.vector (.num (-1))))) (.num 2), by decide⟩

/-- `AlwaysReturns` survives an operation between two vectors although the result can be empty:
`vector(1) unless on() (vector(1) + (vector(1) > 2))` is declared dead (the right side "always returns something")
and returns 1 (recorded finding `C12-unless-through-join`); the reason for `unlessSimple` -/
theorem static_unless_through_join_not_sound :
    ∃ e : SE, closed e = true ∧ boolFree e = true ∧ wellTyped e = true ∧ valueKeeping e = true ∧
      (static e).dead = true ∧ eval e = .v (some 1) :=
  ⟨.unlessOn (.vector (.num 1)) (.bin .add false (.vector (.num 1)) (.bin .gt false (.vector (.num 1)) (.num 2))), by decide⟩

/-- aggregations keep the number known for their input whatever they do to the value: `count(vector(0)) > 0` is folded
to `0 > 0` and declared dead although it returns 1 (recorded finding `C12-static-aggregated`; pint's own tests expect it) -/
theorem static_aggregated_not_sound :
    ∃ e : SE, closed e = true ∧ boolFree e = true ∧ wellTyped e = true ∧ (static e).dead = true ∧ eval e = .v (some 1) :=
  ⟨.bin .gt false (.agg false (.vector (.num 0))) (.num 0), by decide⟩

/-- non-vacuity: `vector(1) > 2` is declared dead, `(vector(3) > 2) + 1` is not and is known to return 4 -/
example :
    (static (.bin .gt false (.vector (.num 1)) (.num 2))).dead = true ∧
    closed (.bin .gt false (.vector (.num 1)) (.num 2)) = true ∧ wellTyped (.bin .gt false (.vector (.num 1)) (.num 2)) = true ∧
    static (.bin .add false (.bin .gt false (.vector (.num 3)) (.num 2)) (.num 1)) = ⟨true, true, 4, false, true⟩ ∧
    eval (.bin .add false (.bin .gt false (.vector (.num 3)) (.num 2)) (.num 1)) = .v (some 4) := by decide

/-- **C12, `or on()`**: when pint declares the right-hand side of `l or on() r` unused and no two vectors meet
inside `l`, the operation returns what `l` returns, whatever `r` returns.  (Without `on()` right-hand series with other
labels are returned too: recorded finding `C12-or-rhs-declared-dead`.)  Of the verdict only `!IsConditional` is used;
`AlwaysReturns` and `boolFree l` play no part (`vec_returns`). -/
theorem or_on_rhs_unused (l : SE) (hc : closed l = true) (hb : boolFree l = true) (ht : wellTyped l = true)
    (hn : noVV l = true) (hv : isVec l = true) (hd : orRhsDead l = true) (y : Val) :
    evalOrOn (eval l) y = eval l := by
  simp only [orRhsDead, Bool.and_eq_true, Bool.not_eq_true'] at hd
  obtain ⟨k, hk⟩ := vec_nonEmpty l hc hb ht hn hd.2 hv
  rw [hk]
  cases y <;> simp [evalOrOn]

example : orRhsDead (.vector (.num 1)) = true ∧ orRhsDead (.bin .gt false (.vector (.num 1)) (.num 0)) = false ∧
    orRhsDead .sel = false := by decide

end staticFold

end Pint.Props.C12
