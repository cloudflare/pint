/-
  C05 — exit status is non-zero exactly when a problem reaches the fail-on severity.
-/
import PintModel.Model.Exit
namespace Pint.Props.C05
open Pint.Exit

/-! ### regenerated facts the theorems rest on (a mutation of the source changes Gen and breaks these) -/

theorem lint_threshold_shape :
    Gen.Severity.lint.op = ">=" ∧ Gen.Severity.lint.lhs = "s" ∧ Gen.Severity.lint.rhs = "failOn" ∧
    Gen.Severity.lint.rhsFrom = "checks.ParseSeverity(c.String(failOnFlag))" ∧
    Gen.Severity.lint.finalCond = "failProblems > 0" := ⟨rfl, rfl, rfl, rfl, rfl⟩

theorem ci_threshold_shape :
    Gen.Severity.ci.op = ">=" ∧ Gen.Severity.ci.lhs = "s" ∧
    Gen.Severity.ci.rhsFrom = "checks.ParseSeverity(c.String(failOnFlag))" ∧
    Gen.Severity.ci.finalCond = "problemsFound" := ⟨rfl, rfl, rfl, rfl⟩

/-- the flag's four spellings parse to the ranks 0..3 (info < warning < bug < fatal), both `--fail-on` flags default
    to `bug`, and the regenerated switch of `ParseSeverity` has no case for any other spelling -/
theorem parseSeverity_monotone :
    parseSeverity "info" = some 0 ∧ parseSeverity "warning" = some 1 ∧
    parseSeverity "bug" = some 2 ∧ parseSeverity "fatal" = some 3 ∧
    Gen.Severity.failOnDefaults = ["bug", "bug"] ∧
    (∀ s, s ∉ ["info", "warning", "bug", "fatal"] → Gen.Severity.parseTable.lookup s = none) := by
  refine ⟨by decide, by decide, by decide, by decide, rfl, fun s hs => ?_⟩
  simp only [List.mem_cons, List.not_mem_nil, or_false, not_or] at hs
  simp [Gen.Severity.parseTable, List.lookup, beq_false_of_ne, hs]

/-- `Severity.String()` (`stringTable`: each case's constant and the string returned) prints a severity as the name of
    its constant, a ranked one: so the harness can read severities back from the JSON report -/
theorem string_roundtrip : ∀ p ∈ Gen.Severity.stringTable, p.1 = p.2 ∧ (rank p.1).isSome := by decide

theorem mem_insert (acc : List Rep) (r x : Rep) : x ∈ Exit.insert acc r ↔ x ∈ acc ∨ x = r := by
  fun_cases Exit.insert acc r with
  | case1 h => exact (or_iff_left_of_imp fun e => e ▸ List.contains_iff_mem.1 h).symm
  | case2 => simp

theorem mem_foldl_insert (rs acc : List Rep) (x : Rep) : x ∈ rs.foldl Exit.insert acc ↔ x ∈ acc ∨ x ∈ rs := by
  induction rs generalizing acc with
  | nil => simp
  | cons r rs ih => simp [ih, mem_insert, or_assoc]

theorem mem_insertAll (rs : List Rep) (x : Rep) : x ∈ insertAll rs ↔ x ∈ rs := by
  simp [insertAll, mem_foldl_insert]

/-- `pint lint` fails iff some reported problem has severity at or above `--fail-on`,
    for every report stream, every threshold, every `--min-severity` and `--show-duplicates`. -/
theorem C05_lint (stream : List Rep) (failOn minSev : Nat) (showDup : Bool) :
    (lint stream failOn minSev showDup).fail = true ↔ ∃ r ∈ stream, failOn ≤ r.sev := by
  simp [lint, lint_threshold_shape.1, cmpOp, List.length_pos_iff_exists_mem, mem_insertAll]

/-- `pint ci` likewise -/
theorem C05_ci (stream : List Rep) (failOn : Nat) :
    ci stream failOn = true ↔ ∃ r ∈ stream, failOn ≤ r.sev := by
  simp [ci, ci_threshold_shape.1, cmpOp, mem_insertAll]

/-- display filtering and duplicate display never change the exit status: the model is built so (`lint` reads `minSev`
    for `hidden` only, `_showDup` never); pint is compared with it on runs that vary both flags -/
theorem exit_indep_display (stream : List Rep) (failOn m1 m2 : Nat) (d1 d2 : Bool) :
    (lint stream failOn m1 d1).fail = (lint stream failOn m2 d2).fail :=
  rfl

/-- duplicates in the stream (same report arriving twice) never change the exit status -/
theorem exit_indep_duplicates (stream : List Rep) (r : Rep) (failOn minSev : Nat) (d : Bool) (h : r ∈ stream) :
    (lint (stream ++ [r]) failOn minSev d).fail = (lint stream failOn minSev d).fail := by
  have hm (x : Rep) : x ∈ stream ++ [r] ↔ x ∈ stream := by simpa using fun e => e ▸ h
  rw [Bool.eq_iff_iff, C05_lint, C05_lint]
  simp only [hm]

theorem below_threshold_passes (stream : List Rep) (failOn minSev : Nat) (d : Bool)
    (h : ∀ r ∈ stream, r.sev < failOn) : (lint stream failOn minSev d).fail = false :=
  Bool.eq_false_iff.2 fun hf =>
    let ⟨r, hr, hs⟩ := (C05_lint stream failOn minSev d).1 hf
    Nat.not_le.2 (h r hr) hs

/-- non-vacuity: a stream with a Warning and a Bug fails at `bug`, passes at `fatal` -/
theorem demo : (lint [⟨1, 7⟩, ⟨2, 8⟩, ⟨2, 8⟩] 2 0 false).fail = true ∧ (lint [⟨1, 7⟩, ⟨2, 8⟩] 3 3 true).fail = false := by
  decide

end Pint.Props.C05
