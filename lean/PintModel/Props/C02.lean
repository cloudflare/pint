/-
  C02 — linting any input terminates with a renderable verdict, never a crash.
  PROVED, for the modelled index sites and decisions: every YAML node gets a position (that scanned positions lie
  inside the file is in Props/C06); a parsed rule is valid xor carries an error, never the "empty" rule no check can
  handle (strict mode), and the relaxed walker drops exactly the empty ones; the branch for entries with errors builds
  the error check alone (regenerated source fact; its `else`, which builds the other checks, is not extracted); the
  console reporter's line loop never indexes outside the file; `InjectDiagnostics` panics only when no diagnostic has a
  position, and writes every message whose lines exist.
  Everything else (yaml.v3, every check body, the other reporters) is covered by the crash/hang search.
-/
import PintModel.Model.RuleShape
import PintModel.Gen.Guards
import PintModel.Lemmas.Position
import PintModel.Lemmas.Inject
namespace Pint.Props.C02
open Pint.RuleShape

/-- regenerated source facts the argument rests on -/
theorem source_guards :
    Gen.Guards.errorRouteCond = "entry.PathError != nil || entry.Rule.Error.Err != nil" ∧
    Gen.Guards.errorRouteChecks = "checks.NewErrorCheck" ∧
    Gen.Guards.strictHandlesEmpty = true ∧ Gen.Guards.nprHasFallback = true ∧
    Gen.Guards.consoleLineGuard = "i < 1 || i > len(lines) => continue" := ⟨rfl, rfl, rfl, rfl, rfl⟩

/-- without error the tests `record && expr`, `alert && expr` that follow in `parseRule` only ask for the key -/
theorem shape_of_noError {f : Flags} (h : anyError f = false) :
    f.expr = (f.record || f.alert) ∧ (f.expr = true → f.nameEmpty = false ∧ f.exprEmpty = false) := by
  simp only [anyError, Bool.or_eq_false_iff] at h
  -- three of the disjuncts of `anyError` are enough: `expr` alone, and the two of `ensureRequiredKeys`
  have key : (f.expr && !f.alert && !f.record) = false ∧ (f.record && (f.nameEmpty || !f.expr || f.exprEmpty)) = false ∧
      (f.alert && (f.nameEmpty || !f.expr || f.exprEmpty)) = false := by simp only [h, and_self]
  -- what is left is a statement about five Booleans
  revert key
  generalize f.record = r, f.alert = a, f.expr = x, f.nameEmpty = n, f.exprEmpty = e
  decide +revert

/-- strict mode: the outcome is never `empty`, so every rule handed to the checks is a valid rule (`recording`,
    `alerting`) or carries an error -/
theorem strict_rule_valid_xor_error (f : Flags) :
    parseRuleStrict Gen.Guards.strictHandlesEmpty f ≠ .empty := by
  show parseRuleStrict true f ≠ .empty  -- the regenerated `strictHandlesEmpty`, see `source_guards`
  unfold parseRuleStrict
  split
  · simp
  · split
    · simp
    · assumption

/-- the rule outcome is `empty` exactly when there is neither record nor alert nor any error: the
    relaxed walker drops only mappings that are not rules at all -/
theorem empty_iff (f : Flags) :
    parseRule f = .empty ↔ anyError f = false ∧ f.record = false ∧ f.alert = false ∧ f.expr = false := by
  unfold parseRule
  cases he : anyError f with
  | true => simp
  | false => rw [(shape_of_noError he).1]; cases f.record <;> cases f.alert <;> simp

theorem valid_has_name_and_expr (f : Flags) (h : parseRule f = .recording ∨ parseRule f = .alerting) :
    f.expr = true ∧ f.exprEmpty = false ∧ f.nameEmpty = false ∧ (f.record = true ∨ f.alert = true) := by
  unfold parseRule at h
  cases he : anyError f with
  | true => simp [he] at h
  | false =>
    obtain ⟨hx, hreq⟩ := shape_of_noError he
    cases hxx : f.expr with
    | false => simp [he, hxx] at h
    | true => exact ⟨rfl, (hreq hxx).2, (hreq hxx).1, by simpa [hxx] using hx.symm⟩

theorem mem_consoleLines {first last nlines i : Nat} :
    i ∈ consoleLines first last nlines ↔ first ≤ i ∧ i ≤ last ∧ 1 ≤ i ∧ i ≤ nlines := by
  simp only [consoleLines, List.mem_filterMap, List.mem_range, Option.ite_none_left_eq_some, Option.some.injEq]
  constructor
  · rintro ⟨k, hk, hn, rfl⟩
    omega
  · rintro ⟨h1, h2, h3, h4⟩
    refine ⟨i - first, Nat.sub_lt_sub_right h1 (Nat.lt_succ_of_le h2), ?_, Nat.add_sub_cancel' h1⟩
    rw [Nat.add_sub_cancel' h1]
    exact not_or.mpr ⟨Nat.not_lt.mpr h3, Nat.not_lt.mpr h4⟩

/-- the console reporter's line loop only touches lines that exist -/
theorem console_lines_in_file (first last nlines : Nat) : ∀ i ∈ consoleLines first last nlines, 1 ≤ i ∧ i ≤ nlines :=
  fun _ hi => (mem_consoleLines.mp hi).2.2

/-- and it prints every line of the range that does exist (nothing is lost by the guard) -/
theorem console_lines_complete (first last nlines i : Nat) (h1 : first ≤ i) (h2 : i ≤ last) (h3 : 1 ≤ i) (h4 : i ≤ nlines) :
    i ∈ consoleLines first last nlines :=
  mem_consoleLines.mpr ⟨h1, h2, h3, h4⟩

/-- a node always has a position (what InjectDiagnostics' `slices.Max` needs) -/
theorem node_has_position (lines : List (List Nat)) (value : List Nat) (vLine vCol minCol : Nat) :
    Pint.Position.newPositionRange lines value vLine vCol minCol ≠ [] :=
  Pint.Position.npr_nonempty lines value vLine vCol minCol

/-- non-vacuity: `- {}` and `- labels: {...}` in strict mode are errors, a plain rule is a rule -/
theorem demo :
    parseRuleStrict true ⟨false, false, false, false, false, false, false, false, false, false, false, false, false, false, false⟩ = .error ∧
    parseRuleStrict true ⟨false, false, false, false, false, false, true, false, false, false, false, false, false, false, false⟩ = .error ∧
    parseRuleStrict true ⟨false, true, false, true, false, false, true, false, false, false, false, false, false, false, false⟩ = .recording := by
  decide

section inject
open Pint.Position Pint.Inject

/-- `InjectDiagnostics` panics (in `slices.Max`) exactly when no diagnostic has any position -/
theorem inject_panics_iff (n : Nat) (ds : List Diag) : inject n ds = none ↔ ∀ d ∈ ds, d.pos = [] := by
  rw [← allLines_eq_nil, ← List.max?_eq_none_iff]
  unfold inject
  split <;> simp [*]

/-- `NewPositionRange` never returns the empty list (`node_has_position`): one diagnostic with positions from it is
enough for the reporter not to panic -/
theorem inject_total_npr (n : Nat) (ds : List Diag) (d : Diag) (hd : d ∈ ds)
    (lines : List (List Nat)) (value : List Nat) (vLine vCol minCol : Nat)
    (hpos : d.pos = newPositionRange lines value vLine vCol minCol) : inject n ds ≠ none :=
  fun h => node_has_position lines value vLine vCol minCol (hpos ▸ (inject_panics_iff n ds).mp h d hd)

/-- **every diagnostic's message is written**: a diagnostic with at least one well-formed position, all of whose lines
exist in the file, has its message under one of the lines `InjectDiagnostics` writes -/
theorem message_written (n : Nat) (ds : List Diag) (i : Nat) (hi : i < ds.length)
    (hlen : 1 ≤ posLen (ds.getD i default).pos)
    (hfile : ∀ q ∈ (ds.getD i default).pos, 1 ≤ q.line ∧ q.line ≤ n) :
    ∃ out, inject n ds = some out ∧ ∃ e ∈ out, i ∈ e.2 := by
  have hd : ds.getD i default ∈ ds := by simp [List.getD_eq_getElem?_getD, hi]
  obtain ⟨q, hq, hl⟩ := message_line_is_own_line (ds.getD i default) hlen
  obtain ⟨out, hout, hmem⟩ := inject_writes (mem_allLines.mpr ⟨_, hd, q, hq, rfl⟩) (hfile q hq).1 (hfile q hq).2
  exact ⟨out, hout, _, hmem, List.mem_filter.mpr ⟨List.mem_range.mpr hi, decide_eq_true hl⟩⟩

/-- non-vacuity: two diagnostics on a 3-line file, one about an empty value (`first = last = 0`) -/
example :
    inject 3 [⟨[⟨2, 5, 9⟩], 2, 3⟩, ⟨[⟨3, 7, 7⟩], 0, 0⟩] = some [(2, [0]), (3, [1])] ∧
    inject 3 [⟨[], 1, 1⟩] = none := by decide

end inject

end Pint.Props.C02
