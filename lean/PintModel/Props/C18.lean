/-
# C18 — an accepted configuration never crashes a later lint run

* `validated_before_use` — over the table regenerated from `internal/config` on every run: every constructor call
  whose error is dropped after the configuration was accepted (`x, _ := f(field)`, `Must*(field)`) has a call of the
  same constructor family on the same field of the same settings type inside a `validate` method with the error
  returned, *compiling the same pattern text* (for regexps the extractor follows helpers such as `fullMatchRegex` down to
  the string handed to `regexp.Compile`; see `sameValidity`), under a condition that covers the use's (`guardCovers`),
  or is one of two listed `exceptions`.
* `dropped_error_is_safe` — why that is enough for pure constructors: a constructor is a function of its argument.
* `mustExpand_total` — the one constructor that also depends on the rule (`TemplatedRegexp.Expand`,
  internal/checks/template.go): `mustExpand` is written here after `MustExpand`, and only the runs below exercise the Go
  function; the theorem is a fact about `dropError`: the result is the fallback or `Expand`'s pattern.

The rest of the property (every block and option × hostile rule files) is decided by running generated
configurations through `config.Load` and, when accepted, a full in-process lint under `recover`.
-/
import PintModel.Gen.ConfigUse
namespace Pint.Props.C18
open Pint.Gen.ConfigUse

/-- the pattern text a use compiles against the one validation compiled (`$` = the configuration field): the same
text, or the validated pattern between `^` and `$` WITHOUT a group — anchors alone neither close nor open anything, so
they keep a valid pattern valid (assumption about Go's regexp syntax, listed in the trusted base). A group around the
pattern is a different matter: `\Qabc` is valid, `^(?:\Qabc)$` is not (the crash fixed by 9b0be7b) -/
def sameValidity (usePat validatedPat : String) : Bool :=
  usePat == validatedPat || (validatedPat == "$" && usePat == "\"^\" + $ + \"$\"")

/-- the condition the validation sits under (the field written `$`): none, or one of the conditions the use sits
under. `if $ != "" { validate }` with an unconditional use lets the empty string through: `report { severity = "" }`
was accepted and every matching rule got a Fatal problem (repair ae16fcb validates the severity always) -/
def guardCovers (u v : Row) : Bool := v.guards.all u.guards.contains

def sameField (u v : Row) : Bool :=
  v.typ == u.typ && v.field == u.field && v.fam == u.fam && sameValidity u.pat v.pat && guardCovers u v

/-- dropped errors that no validate method covers, and why they cannot crash -/
def exceptions : List (String × String × String) :=
  [ -- validated only when not empty, used always: the empty string gives the zero duration, which means "no limit"
    ("CostSettings", "MaxEvaluationDuration", "duration"),
    -- validated only when not empty; an empty value is replaced by the two minute default right before the use
    ("PrometheusQuery", "Timeout", "duration") ]

def covered (u : Row) : Bool :=
  validates.any (sameField u) || exceptions.contains (u.typ, u.field, u.fam)

-- `+kernel`: plain `decide` first runs the tables' string comparisons in the elaborator, at three times the kernel's cost
theorem validated_before_use : uses.all covered = true := by decide +kernel

/-- the table is not trivially small: the extractor recognised the construction sites. 35 is a floor some rows under
the present size of either table: a few rows may go, an extractor that misses a whole pattern of call fails here -/
theorem table_not_empty : 35 ≤ uses.length ∧ 35 ≤ validates.length := by decide

/-- `x, _ := ctor(..)`: an `Except` stands for Go's pair of value and error, `dflt` for what `x` holds on an error -/
def dropError {α : Type} (dflt : α) : Except String α → α
  | .ok v => v
  | .error _ => dflt

theorem dropped_error_is_safe {α : Type} (ctor : String → Except String α) (dflt : α) (s : String) (v : α)
    (h : ctor s = .ok v) : dropError dflt (ctor s) = v := by
  simp [dropError, h]

/-- `TemplatedRegexp.MustExpand`: `Expand`'s pattern, or `neverMatches` when `Expand` returns an error -/
def mustExpand {Re Rule : Type} (expand : Rule → Except String Re) (neverMatches : Re) (r : Rule) : Re :=
  dropError neverMatches (expand r)

theorem mustExpand_total {Re Rule : Type} (expand : Rule → Except String Re) (neverMatches : Re) (r : Rule) :
    mustExpand expand neverMatches r = neverMatches ∨ expand r = .ok (mustExpand expand neverMatches r) := by
  unfold mustExpand dropError
  cases h : expand r with
  | ok v => exact Or.inr rfl
  | error e => exact Or.inl rfl

end Pint.Props.C18
