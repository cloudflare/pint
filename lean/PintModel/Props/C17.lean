/-
  C17 — pull-request commenting converges and is idempotent.

  The create loop posts `take (budget - created)` of the pending comments no existing one covers (`creates_eq_take`);
  the store after a run is what was not deleted plus what was posted (`mem_step`).  Grouping (`dedupReports`) and the
  line choice (`pickLine`) stand apart.
-/
import PintModel.Model.Reconcile
namespace Pint.Props.C17
open Pint.Reconcile

variable {P E : Type} {isEq : E → P → Bool} {canDelete : E → Bool} {store : P → E} {budget : Nat} {pending : List P}
  {existing : List E}

def Covered (isEq : E → P → Bool) (existing : List E) (p : P) : Prop := ∃ e ∈ existing, isEq e p = true

/-- the test of the create loop and of `uncovered` -/
theorem not_covered_iff {p : P} : (!existing.any fun e => isEq e p) = true ↔ ¬ Covered isEq existing p := by
  simp [Covered]

theorem creates_eq_take {created : Nat} :
    creates isEq existing budget pending created =
      (pending.filter fun p => !(existing.any fun e => isEq e p)).take (budget - created) := by
  fun_induction creates isEq existing budget pending created with
  | case1 => rw [List.filter_nil, List.take_nil]
  | case2 p ps created hc ih => rw [List.filter_cons_of_neg (by simp [hc]), ih]
  | case3 p ps created hc hlt ih =>
    rw [List.filter_cons_of_pos (by simp [hc]), show budget - created = budget - (created + 1) + 1 by omega,
      List.take_succ_cons, ih]
  | case4 p ps created hc hlt ih => rw [ih, show budget - created = 0 by omega, List.take_zero, List.take_zero]

theorem length_creates {created : Nat} :
    (creates isEq existing budget pending created).length = min (budget - created) (uncovered isEq existing pending) := by
  rw [creates_eq_take, List.length_take, uncovered]

theorem mem_creates {created : Nat} {p : P} (h : p ∈ creates isEq existing budget pending created) :
    p ∈ pending ∧ ¬ Covered isEq existing p := by
  rw [creates_eq_take] at h
  have := List.mem_filter.mp (List.mem_of_mem_take h)
  exact ⟨this.1, not_covered_iff.mp this.2⟩

/-- at most `maxComments` new comments are created per run, whatever was created before in this run -/
theorem creates_le_budget (isEq : E → P → Bool) (existing : List E) (budget : Nat) (pending : List P) (created : Nat) :
    (creates isEq existing budget pending created).length + created ≤ max budget created := by
  rw [length_creates]
  exact Nat.le_trans (Nat.add_le_add_right (Nat.min_le_left _ _) _) (Nat.le_of_eq (Nat.sub_add_eq_max ..))

/-- no comment equal to one that already existed is created -/
theorem no_equal_to_existing_created (isEq : E → P → Bool) (existing : List E) (budget : Nat) (pending : List P) (created : Nat) :
    ∀ p ∈ creates isEq existing budget pending created, ¬ Covered isEq existing p :=
  fun _ hp => (mem_creates hp).2

/-- every reported problem's comment is covered by an existing comment, or created now, or the
    budget of this run is exhausted (it waits for a later run) -/
theorem covered_or_created_or_deferred (isEq : E → P → Bool) (existing : List E) (budget : Nat) (pending : List P) (created : Nat) :
    ∀ p ∈ pending, Covered isEq existing p ∨ p ∈ creates isEq existing budget pending created ∨
      budget ≤ (creates isEq existing budget pending created).length + created := by
  intro p hp
  by_cases hc : Covered isEq existing p
  · exact .inl hc
  · refine .inr ?_
    rw [creates_eq_take]
    by_cases hlen : (pending.filter fun p => !(existing.any fun e => isEq e p)).length ≤ budget - created
    · exact .inl (by rw [List.take_of_length_le hlen]; exact List.mem_filter.mpr ⟨hp, not_covered_iff.mpr hc⟩)
    · exact .inr (by rw [List.length_take]; omega)

/-- exactly the stale comments pint may delete are removed -/
theorem deletes_exactly_stale_deletable (isEq : E → P → Bool) (canDelete : E → Bool) (existing : List E) (pending : List P) (e : E) :
    e ∈ deletes isEq canDelete existing pending ↔
      e ∈ existing ∧ canDelete e = true ∧ ∀ p ∈ pending, isEq e p = false := by
  simp only [deletes, List.mem_filter, Bool.and_eq_true, Bool.not_eq_true', List.any_eq_false, Bool.not_eq_true]
  exact ⟨fun ⟨h1, h2, h3⟩ => ⟨h1, h3, h2⟩, fun ⟨h1, h2, h3⟩ => ⟨h1, h3, h2⟩⟩

theorem mem_step {e : E} :
    e ∈ step isEq canDelete store budget pending existing ↔
      (e ∈ existing ∧ e ∉ deletes isEq canDelete existing pending) ∨
      ∃ p ∈ creates isEq existing budget pending 0, store p = e := by
  simp only [step, deletes, List.mem_append, List.mem_filter, List.mem_map]
  exact or_congr (and_congr_right fun h => by simp only [h, true_and, Bool.not_eq_true', Bool.not_eq_true]) Iff.rfl

/-- comments pint may not delete (foreign ones) survive a run -/
theorem foreign_comments_untouched (isEq : E → P → Bool) (canDelete : E → Bool) (store : P → E) (budget : Nat)
    (pending : List P) (existing : List E) (e : E) (he : e ∈ existing) (hf : canDelete e = false) :
    e ∈ step isEq canDelete store budget pending existing :=
  mem_step.mpr (.inl ⟨he, fun h => by simp [deletes_exactly_stale_deletable, hf] at h⟩)

theorem covered_stays_covered {p : P} (hp : p ∈ pending) (hc : Covered isEq existing p) :
    Covered isEq (step isEq canDelete store budget pending existing) p := by
  obtain ⟨e, he, heq⟩ := hc
  refine ⟨e, mem_step.mpr (.inl ⟨he, fun h => ?_⟩), heq⟩
  rw [((deletes_exactly_stale_deletable ..).mp h).2.2 p hp] at heq
  exact Bool.noConfusion heq

/-- `hstore` is store faithfulness: the platform lists back what pint posted -/
theorem created_is_covered (hstore : ∀ p, isEq (store p) p = true) {p : P} (hp : p ∈ creates isEq existing budget pending 0) :
    Covered isEq (step isEq canDelete store budget pending existing) p :=
  ⟨store p, mem_step.mpr (.inr ⟨p, hp, rfl⟩), hstore p⟩

/-- a second run deletes nothing: what the first kept is not deletable or covers something, what it posted covers its
    own pending comment -/
theorem deletes_step_nil (hstore : ∀ p, isEq (store p) p = true) :
    deletes isEq canDelete (step isEq canDelete store budget pending existing) pending = [] := by
  rw [List.eq_nil_iff_forall_not_mem]
  intro e he
  obtain ⟨hmem, hdel, hstale⟩ := (deletes_exactly_stale_deletable ..).mp he
  rcases mem_step.mp hmem with ⟨hex, hkeep⟩ | ⟨p, hp, rfl⟩
  · exact hkeep ((deletes_exactly_stale_deletable ..).mpr ⟨hex, hdel, hstale⟩)
  · have := hstale p (mem_creates hp).1
    rw [hstore p] at this
    exact Bool.noConfusion this

/-- idempotence: once nothing is being deferred by the budget, repeating the run with unchanged
    results creates nothing and deletes nothing -/
theorem idempotent_when_not_deferred (isEq : E → P → Bool) (canDelete : E → Bool) (store : P → E) (budget : Nat)
    (pending : List P) (existing : List E) (hstore : ∀ p, isEq (store p) p = true)
    (hnd : ∀ p ∈ pending, Covered isEq existing p ∨ p ∈ creates isEq existing budget pending 0) :
    let existing' := step isEq canDelete store budget pending existing
    creates isEq existing' budget pending 0 = [] ∧ deletes isEq canDelete existing' pending = [] := by
  intro existing'
  refine ⟨?_, deletes_step_nil hstore⟩
  have hcov : ∀ p ∈ pending, Covered isEq existing' p := fun p hp =>
    (hnd p hp).elim (covered_stays_covered hp) (created_is_covered hstore)
  rw [creates_eq_take, List.filter_eq_nil_iff.mpr fun p hp h => not_covered_iff.mp h (hcov p hp), List.take_nil]

theorem length_filter_le_sub {α : Type} (p q : α → Bool) (l : List α) (n : Nat)
    (hqp : ∀ a ∈ l, q a = true → p a = true) (hn : ∀ a ∈ (l.filter p).take n, ¬ q a = true) :
    (l.filter q).length ≤ (l.filter p).length - n := by
  have e : l.filter q = ((l.filter p).take n ++ (l.filter p).drop n).filter q := by
    rw [List.take_append_drop, List.filter_filter]
    refine List.filter_congr fun a ha => ?_
    cases hq : q a with
    | false => rfl
    | true => rw [hqp a ha hq]; rfl
  rw [e, List.filter_append, List.filter_eq_nil_iff.mpr hn, List.nil_append]
  exact Nat.le_trans (List.length_filter_le _ _) (Nat.le_of_eq List.length_drop)

/-- one run covers `budget` more pending comments, or all: what was covered stays so, and the first `budget` uncovered
    comments are posted -/
theorem uncovered_step_le (hstore : ∀ p, isEq (store p) p = true) :
    uncovered isEq (step isEq canDelete store budget pending existing) pending ≤ uncovered isEq existing pending - budget := by
  refine length_filter_le_sub _ _ pending budget (fun p hp h => ?_) fun p hp h => ?_
  · exact not_covered_iff.mpr fun hc => not_covered_iff.mp h (covered_stays_covered hp hc)
  · exact not_covered_iff.mp h (created_is_covered hstore (by rw [creates_eq_take]; exact hp))

/-- with the same reported problems and a budget of m new comments per run, after k runs at most
    `n - k*m` pending comments are still uncovered: every problem is covered after ⌈n/m⌉ runs -/
theorem converges [DecidableEq P] (isEq : E → P → Bool) (canDelete : E → Bool) (store : P → E) (budget : Nat)
    (pending : List P) (hstore : ∀ p, isEq (store p) p = true) (k : Nat) (existing : List E) :
    uncovered isEq (runs isEq canDelete store budget pending k existing) pending ≤
      uncovered isEq existing pending - k * budget := by
  induction k generalizing existing with
  | zero => simp [runs]
  | succ k ih =>
    rw [Nat.succ_mul, Nat.add_comm (k * budget), Nat.sub_add_eq]
    exact Nat.le_trans (ih _) (Nat.sub_le_sub_right (uncovered_step_le hstore) _)

def GroupsOk (dst : List (List Rep)) : Prop :=
  ∀ g ∈ dst, ∃ h t, g = h :: t ∧ ∀ r ∈ g, r.key = h.key

def headKeys (dst : List (List Rep)) : List GKey := dst.filterMap fun g => g.head?.map (·.key)

theorem addReport_ok (dst : List (List Rep)) (r : Rep) (h : GroupsOk dst) : GroupsOk (addReport dst r) := by
  fun_induction addReport dst r with
  | case1 => exact List.forall_mem_singleton.mpr ⟨r, [], rfl, by simp⟩
  | case2 rest ih | case4 rest hd tl hk ih =>
    exact List.forall_mem_cons.mpr ⟨(List.forall_mem_cons.mp h).1, ih (List.forall_mem_cons.mp h).2⟩
  | case3 rest hd tl hk =>
    obtain ⟨⟨_, _, e, hkeys⟩, hrest⟩ := List.forall_mem_cons.mp h
    cases e
    refine List.forall_mem_cons.mpr ⟨?_, hrest⟩
    split
    · exact ⟨hd, tl, rfl, hkeys⟩
    · refine ⟨hd, tl ++ [r], rfl, fun y hy => ?_⟩
      rcases List.mem_append.mp hy with hy | hy
      · exact hkeys y hy
      · exact (List.mem_singleton.mp hy) ▸ hk.symm

theorem headKeys_addReport (dst : List (List Rep)) (r : Rep) :
    headKeys (addReport dst r) = if r.key ∈ headKeys dst then headKeys dst else headKeys dst ++ [r.key] := by
  fun_induction addReport dst r with
  | case1 => rfl
  | case2 rest ih => exact ih
  | case3 rest hd tl hk =>
    rw [if_pos (show r.key ∈ headKeys ((hd :: tl) :: rest) from hk ▸ List.mem_cons_self)]
    split <;> rfl
  | case4 rest hd tl hk ih =>
    show hd.key :: headKeys (addReport rest r) = if r.key ∈ hd.key :: headKeys rest then _ else _
    rw [ih]
    simp only [List.mem_cons, show ¬ r.key = hd.key from fun e => hk e.symm, false_or]
    split <;> rfl

/-- after grouping, every group holds reports of one key (`GKey`) and no two groups have the same key: problems of one
    check on the same lines do not get two comments.  That every report of `src` is kept in some group is not stated. -/
theorem groups_share_comment (src : List Rep) (showDup : Bool) :
    GroupsOk (dedupReports src showDup) ∧ (headKeys (dedupReports src showDup)).Nodup := by
  refine List.foldlRecOn (motive := fun dst => GroupsOk dst ∧ (headKeys dst).Nodup) src _ ⟨nofun, List.nodup_nil⟩
    fun dst h r _ => ?_
  split
  · exact h
  · refine ⟨addReport_ok dst r h.1, ?_⟩
    rw [headKeys_addReport dst r]
    split
    · exact h.2
    · exact (List.perm_append_singleton r.key _).nodup_iff.mpr (List.nodup_cons.mpr ⟨‹r.key ∉ headKeys dst›, h.2⟩)

/-- the comment goes on a line of the problem's range (that it is a modified one whenever the range has one is
    not stated) -/
theorem pickLine_in_range (first last : Nat) (modified : List Nat) (h : first ≤ last) :
    first ≤ pickLine first last modified ∧ pickLine first last modified ≤ last := by
  unfold pickLine
  suffices ∀ fuel i, i ≤ last → first ≤ pickLine.go first last modified fuel i ∧ pickLine.go first last modified fuel i ≤ last from
    this _ _ (Nat.le_refl _)
  intro fuel i
  fun_induction pickLine.go first last modified fuel i with
  | case1 | case2 | case4 => exact fun _ => ⟨h, Nat.le_refl _⟩
  | case3 _ _ hlt => exact fun hi => ⟨Nat.le_of_not_lt hlt, hi⟩
  | case5 _ _ _ _ _ ih => exact fun hi => ih (Nat.le_trans (Nat.sub_le _ 1) hi)

/-- non-vacuity: budget 1, two uncovered pending comments, one stale deletable and one foreign comment -/
theorem demo :
    let isEq : Nat → Nat → Bool := fun e p => e == p
    creates isEq [10, 99] 1 [10, 20, 30] 0 = [20] ∧
    deletes isEq (fun e => e != 77) [10, 99, 77] [10, 20, 30] = [99] ∧
    runs isEq (fun e => e != 77) id 1 [10, 20, 30] 3 [10, 99, 77] = [10, 77, 20, 30] := by
  decide

end Pint.Props.C17
