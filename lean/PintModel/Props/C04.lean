/-
# C04 — a "non-existent label" template report is never a false positive

`analyse_sound` is an induction over the expression in which `Covers` lifts the `canHave` equations of
`Lemmas/LabelFlow` to the lists of sources and of label sets.  Liveness (`IsDead`) is outside this model: the general
clause of C04 ("some *live* branch") holds up to the dead-code findings recorded for C12.
-/
import PintModel.Lemmas.LabelFlow
namespace Pint.Props.C04
open Pint.LabelFlow

def CanHave (s : Src) (n : String) : Prop := n ∉ s.excl ∧ (n ∈ s.incl ∨ n ∈ s.guar ∨ s.fixed = false)

theorem canHave_iff (s : Src) (n : String) : canHave s n = true ↔ CanHave s n := by
  simp [canHave, CanHave, or_assoc]

def Accounts (s : Src) (ls : LS) : Prop := ∀ n ∈ ls, CanHave s n

theorem accounts_iff (s : Src) (ls : LS) : accounts s ls = true ↔ Accounts s ls := by
  simp [accounts, Accounts, canHave_iff]

theorem accounts_def {s : Src} {ls : LS} : Accounts s ls ↔ ∀ n ∈ ls, canHave s n = true :=
  forall₂_congr fun n _ => (canHave_iff s n).symm

theorem canHave_includeLabel {s : Src} {ns : LS} {n : String} (h : CanHave s n ∨ n ∈ ns) : CanHave (includeLabel s ns) n := by
  simpa [← canHave_iff, or_comm] using h

def Covers (S : List Src) (L : List LS) : Prop := ∀ ls ∈ L, ∃ s ∈ S, Accounts s ls

section
variable {S S' : List Src} {L L' : List LS} {f : Src → Src}

theorem Covers.flatMap {g : LS → List LS} (h : Covers S L)
    (hfg : ∀ s ls, Accounts s ls → ∀ ls' ∈ g ls, Accounts (f s) ls') : Covers (S.map f) (L.flatMap g) := by
  intro ls' hls'
  obtain ⟨ls, hls, hg⟩ := List.mem_flatMap.mp hls'
  obtain ⟨s, hs, hacc⟩ := h ls hls
  exact ⟨f s, List.mem_map_of_mem hs, hfg s ls hacc ls' hg⟩

theorem Covers.map {g : LS → LS} (h : Covers S L)
    (hfg : ∀ s ls, Accounts s ls → Accounts (f s) (g ls)) : Covers (S.map f) (L.map g) := by
  rw [List.map_eq_flatMap (f := g)]
  exact h.flatMap fun s ls hacc ls' hls' => List.mem_singleton.mp hls' ▸ hfg s ls hacc

theorem Covers.mapSrc (h : Covers S L)
    (hf : ∀ s n, canHave (f s) n = canHave s n) : Covers (S.map f) L :=
  List.map_id L ▸ h.map (g := id) fun s _ hacc => accounts_def.mpr fun n hn =>
    (hf s n).trans (accounts_def.mp hacc n hn)

theorem Covers.mapFilter {p : String → Bool} (h : Covers S L)
    (hf : ∀ s n, canHave (f s) n = (p n && canHave s n)) : Covers (S.map f) (L.map (List.filter p)) :=
  h.map fun s _ hacc => accounts_def.mpr fun n hn => by
    rw [hf, (List.mem_filter.mp hn).2, accounts_def.mp hacc n (List.mem_filter.mp hn).1]
    rfl

theorem Covers.withOrWithoutName (h : Covers S L) : Covers S (withOrWithoutName L) :=
  forall_mem_withOrWithoutName.mpr ⟨h, fun ls hls =>
    (h ls hls).imp fun _ hs => ⟨hs.1, fun n hn => hs.2 n (mem_dropName.mp hn).1⟩⟩

theorem Covers.append (h : Covers S L) (h' : Covers S' L') : Covers (S ++ S') (L ++ L') :=
  List.forall_mem_append.mpr
    ⟨fun ls hls => (h ls hls).imp fun _ hs => ⟨List.mem_append_left _ hs.1, hs.2⟩,
     fun ls hls => (h' ls hls).imp fun _ hs => ⟨List.mem_append_right _ hs.1, hs.2⟩⟩

end

/-- `group_left(incl)` / `group_right(incl)`: a series of the "many" side with the labels of `incl` taken from any
series `b` of the other side -/
theorem accounts_group {s : Src} {a : LS} (h : Accounts s a) {on : Bool} {m incl : LS} {R : List LS} :
    ∀ ls ∈ R.map (fun b => (a.filter fun n => !incl.contains n) ++ b.filter incl.contains),
      Accounts (if on then includeMatching (includeLabel s incl) m else includeLabel s incl) ls := by
  simp only [List.forall_mem_map]
  refine fun b _ => accounts_def.mpr fun n hn => ?_
  rcases List.mem_append.mp hn with hn | hn
  · simp [accounts_def.mp h n (List.mem_filter.mp hn).1]
  · simpa using Or.inl (List.mem_filter.mp hn).2

theorem analyse_covers (U : LS) (e : Expr) : Covers (analyse e) (possible U e) := by
  induction e with
  | sel ms =>
    intro ls h
    refine ⟨selSrc ms, List.mem_singleton_self _, accounts_def.mpr fun n hn => canHave_selSrc.mpr ?_⟩
    rintro m hm hk rfl
    have := List.all_eq_true.mp (List.mem_filter.mp h).2 m hm
    simp [hk, hn] at this
  | absent ms =>
    exact fun ls h =>
      ⟨_, List.mem_singleton_self _, accounts_def.mpr fun n hn => canHave_absentSrc (subset_of_mem_subsets h n hn)⟩
  | vec =>
    intro ls h
    exact ⟨vecSrc, List.mem_singleton_self _, by simp [List.mem_singleton.mp h, Accounts]⟩
  | topk e ih => exact ih
  | withScalar e ih => exact ih.withOrWithoutName
  | aggBy g e ih => exact ih.mapFilter (canHave_aggBy g)
  | aggWithout g e ih => exact ih.mapFilter (canHave_aggWithout g)
  | countValuesBy g v e ih =>
    exact ih.map fun s ls h => accounts_def.mpr fun n hn => by
      rcases List.mem_cons.mp hn with rfl | hn
      · simp
      · obtain ⟨hn, hg⟩ := List.mem_filter.mp hn
        simp [canHave_aggBy, List.contains_iff_mem.mp hg, accounts_def.mp h n hn]
  | func e ih => exact (ih.mapSrc canHave_reguarantee).withOrWithoutName
  | labelReplace dst e ih =>
    exact ih.flatMap fun s ls h ls' hls' => accounts_def.mpr fun n hn => by
      simp only [List.mem_cons, List.not_mem_nil, or_false] at hls'
      rcases hls' with rfl | rfl | rfl
      · simp [accounts_def.mp h n hn]
      · rcases List.mem_cons.mp hn with rfl | hn
        · simp
        · simp [accounts_def.mp h n hn]
      · simp [accounts_def.mp h n (List.mem_filter.mp hn).1]
  | binOn m l r ihl _ => exact (ihl.mapFilter (canHave_binOn m)).withOrWithoutName
  | binIgn m l r ihl _ => exact (ihl.mapFilter fun s => canHave_excludeLabel s m).withOrWithoutName
  | groupLeft on m incl l r ih _ | groupRight on m incl l r _ ih =>
    exact (ih.flatMap fun s a h => accounts_group h).withOrWithoutName
  | setAnd on m l r ihl _ => exact ihl.mapSrc fun s => canHave_ite_includeMatching on s m
  | setOr on m l r ihl ihr => exact (ihl.mapSrc fun s => canHave_ite_includeMatching on s m).append ihr

/-- **C04, soundness**: every label set a returned series can carry is accounted for by one of pint's sources.  (`wf`
excludes nothing: the hypothesis holds of every expression.) -/
theorem analyse_sound (U : LS) : ∀ (e : Expr), wf e = true → ∀ ls ∈ possible U e, ∃ s ∈ analyse e, Accounts s ls :=
  fun e _ => analyse_covers U e

/-- **C04, single result branch**: when pint derives one source for the query and decides that label `n` cannot be on
it — the condition under which alerts/template reports "template uses non-existent label" — no series Prometheus can
return for the query, whatever data is stored, carries `n`. -/
theorem C04_single_branch (U : LS) (e : Expr) (hw : wf e = true) (s : Src) (h1 : analyse e = [s]) (n : String)
    (hn : canHave s n = false) : ∀ ls ∈ possible U e, n ∉ ls := by
  intro ls hls hmem
  obtain ⟨s', hs', hacc⟩ := analyse_sound U e hw ls hls
  rw [h1, List.mem_singleton] at hs'
  rw [← Bool.not_eq_true, canHave_iff, ← hs'] at hn
  exact hn (hacc n hmem)

/-- the general clause, up to liveness: every returned series is consistent with at least one derived branch -/
theorem C04_some_branch (U : LS) (e : Expr) (hw : wf e = true) (ls : LS) (h : ls ∈ possible U e) :
    (analyse e).any (fun s => accounts s ls) = true := by
  obtain ⟨s, hs, hacc⟩ := analyse_sound U e hw ls h
  exact List.any_eq_true.mpr ⟨s, hs, (accounts_iff s ls).mpr hacc⟩

/-! non-vacuity: `sum by (job) (up{env="prod"})` over labels job, env, instance -/
example :
    let e := Expr.aggBy ["job"] (.sel [{ label := "env", kind := .eq }])
    (possible ["job", "env", "instance"] e).length = 4 ∧ (analyse e).map (fun s => (canHave s "job", canHave s "instance", canHave s "env")) = [(true, false, false)] := by
  decide

/-- what the fix 0da997e was about: `sum by (__name__) (m)` keeps the metric name -/
example : (analyse (.aggBy [nameL] (.sel []))).map (fun s => canHave s nameL) = [true] ∧
    [nameL] ∈ possible [] (.aggBy [nameL] (.sel [])) := by decide

end Pint.Props.C04
